import TrVerif.Model.Basic
import TrVerif.Model.Data
import TrVerif.Model.Scan
import TrVerif.Model.Journey
import TrVerif.Model.Calc
import TrVerif.Model.Render
import TrVerif.Model.Driver
import TrVerif.Model.Server
import TrVerif.Model.Block
import TrVerif.Model.Concurrent
import TrVerif.Spec.Totals
import TrVerif.Proofs.Fold
import TrVerif.Proofs.HourIndex
import TrVerif.Proofs.Tables
import TrVerif.Proofs.Emit
import TrVerif.Proofs.Sort
import TrVerif.Props.C06
import TrVerif.Props.C19
import TrVerif.Props.C13
import TrVerif.Props.C14
import TrVerif.Props.C15
import TrVerif.Props.C17
import TrVerif.Props.C20
import TrVerif.Props.C07
import TrVerif.Props.C09
import TrVerif.Props.C08
import TrVerif.Props.C10
import TrVerif.Props.C11
import TrVerif.Props.C18
import TrVerif.Spec.Itinerary
import TrVerif.Proofs.Reverse
import TrVerif.Proofs.JourneyValid
import TrVerif.Proofs.RenderValid
import TrVerif.Proofs.Assembly
import TrVerif.Proofs.DataFacts
import TrVerif.Props.C01
import TrVerif.Proofs.Slice
import TrVerif.Proofs.Cleanup
import TrVerif.Proofs.DataWF
import TrVerif.Props.C02
import TrVerif.Proofs.Achieve
import TrVerif.Props.Attained
import TrVerif.Proofs.Terminate
import TrVerif.Proofs.NoException
import TrVerif.Proofs.DataTerm
import TrVerif.Proofs.FwdChain
import TrVerif.Props.NoExc
import TrVerif.Props.C10e
import TrVerif.Props.C07SecondPass
import TrVerif.Props.C12
import TrVerif.Props.C12Shift
import TrVerif.Props.C12Reason
import TrVerif.Props.C12MapStatus
import TrVerif.Props.C16
import TrVerif.Props.NonVacuity
import TrVerif.Props.C07Data
import TrVerif.Props.C08Complete
import TrVerif.Props.C09Complete
import TrVerif.Props.C04
import TrVerif.Props.C07Rev
import TrVerif.Props.C07All
import TrVerif.Props.C03
import TrVerif.Props.C17Load
import TrVerif.Props.C17All
import TrVerif.Model.LoadDriver
import TrVerif.Props.C16Load
import TrVerif.Props.C16All
import TrVerif.Props.C18Params
import TrVerif.Props.C18All
import TrVerif.Model.ParamsDriver
import TrVerif.Props.C15Load
import TrVerif.Props.C15All
import TrVerif.Props.C12Full
import TrVerif.Props.C12FullRecon
import TrVerif.Props.C12FullRev
import TrVerif.Props.C12FullRoute
import TrVerif.Props.C12FullRouteDep
import TrVerif.Props.C12FullAlt
import TrVerif.Props.C12Window
