/-
  TrVerif.Proofs.Sort — stable insertion sort: sortedness, membership, and commutation with
  `filter` (the mechanism behind property C11: filtering the globally sorted connection lists by
  scenario gives the sorted list of the surviving connections) and with maps that preserve the
  comparison (C16: the loader's sorted lists are the model's).
-/
import TrVerif.Model.Data
namespace Tr

variable {α : Type} (lt : α → α → Bool)

/-- what `std::stable_sort` needs of its comparator: a strict weak order -/
structure StrictWeak : Prop where
  asymm : ∀ a b, lt a b = true → lt b a = false
  negTrans : ∀ a b c, lt a b = false → lt b c = false → lt a c = false

/-- sorted: no later element is strictly smaller than an earlier one -/
def SortedBy (l : List α) : Prop := l.Pairwise (fun x y => lt y x = false)

theorem insertBy_of_forall (a : α) (l : List α) (h : ∀ c ∈ l, lt c a = false) : insertBy lt a l = a :: l := by
  cases l with
  | nil => rfl
  | cons b l => simp [insertBy, h b (by simp)]

theorem isort_cons (a : α) (l : List α) : isort lt (a :: l) = insertBy lt a (isort lt l) := rfl

theorem insertBy_perm (a : α) (l : List α) : (insertBy lt a l).Perm (a :: l) := by
  induction l with
  | nil => exact .refl _
  | cons b l ih =>
    rw [insertBy]
    split
    · exact (ih.cons b).trans (.swap a b l)
    · exact .refl _

theorem isort_perm (l : List α) : (isort lt l).Perm l := by
  induction l with
  | nil => exact .refl _
  | cons a l ih => exact (insertBy_perm lt a _).trans (ih.cons a)

theorem mem_insertBy (a x : α) (l : List α) : x ∈ insertBy lt a l ↔ x = a ∨ x ∈ l :=
  (insertBy_perm lt a l).mem_iff.trans List.mem_cons

theorem mem_isort (x : α) (l : List α) : x ∈ isort lt l ↔ x ∈ l := (isort_perm lt l).mem_iff

theorem insertBy_map {β : Type} (lt' : β → β → Bool) (g : α → β) (hg : ∀ a b, lt' (g a) (g b) = lt a b)
    (x : α) (l : List α) : insertBy lt' (g x) (l.map g) = (insertBy lt x l).map g := by
  induction l with
  | nil => rfl
  | cons y ys ih =>
    simp only [List.map_cons, insertBy, hg]
    split
    · rw [ih]; rfl
    · rfl

theorem isort_map {β : Type} (lt' : β → β → Bool) (g : α → β) (hg : ∀ a b, lt' (g a) (g b) = lt a b)
    (l : List α) : isort lt' (l.map g) = (isort lt l).map g := by
  induction l with
  | nil => rfl
  | cons a l ih => rw [List.map_cons, isort_cons, isort_cons, ih, insertBy_map lt lt' g hg]

theorem not_lt_of_head (h : StrictWeak lt) {a b : α} {l : List α} (hs : SortedBy lt (b :: l)) (hba : lt b a = false) :
    ∀ c ∈ b :: l, lt c a = false := by
  intro c hc
  rcases List.mem_cons.mp hc with rfl | e
  · exact hba
  · exact h.negTrans _ _ _ ((List.pairwise_cons.mp hs).1 c e) hba

theorem sorted_insertBy (h : StrictWeak lt) (a : α) (l : List α) (hs : SortedBy lt l) : SortedBy lt (insertBy lt a l) := by
  induction l with
  | nil => simp [insertBy, SortedBy]
  | cons b l ih =>
    have hb := List.pairwise_cons.mp hs
    rw [insertBy]
    split
    · rename_i hba
      refine List.pairwise_cons.mpr ⟨fun c hc => ?_, ih hb.2⟩
      rcases (mem_insertBy lt a c l).mp hc with rfl | e
      · exact h.asymm _ _ hba
      · exact hb.1 c e
    · rename_i hba
      exact List.pairwise_cons.mpr ⟨not_lt_of_head lt h hs (by simpa using hba), hs⟩

theorem sorted_isort (h : StrictWeak lt) (l : List α) : SortedBy lt (isort lt l) := by
  induction l with
  | nil => exact .nil
  | cons a l ih => exact sorted_insertBy lt h a _ ih

theorem filter_insertBy (h : StrictWeak lt) (p : α → Bool) (a : α) (l : List α) (hs : SortedBy lt l) :
    (insertBy lt a l).filter p = if p a then insertBy lt a (l.filter p) else l.filter p := by
  induction l with
  | nil => cases hpa : p a <;> simp [insertBy, hpa]
  | cons b l ih =>
    have hb := List.pairwise_cons.mp hs
    by_cases hba : lt b a = true
    · -- `a` goes behind `b` on both sides, whether or not `b` is kept
      cases hpb : p b <;> cases hpa : p a <;> simp [insertBy, hba, hpb, hpa, ih hb.2]
    · -- `a` stays in front of `b`, hence of everything that is kept: nothing kept is smaller
      have hall : ∀ c ∈ (b :: l).filter p, lt c a = false := fun c hc =>
        not_lt_of_head lt h hs (by simpa using hba) c (List.mem_filter.mp hc).1
      rw [insertBy, if_neg hba, List.filter_cons]
      cases hpa : p a
      · rfl
      · exact (insertBy_of_forall lt a _ hall).symm

theorem filter_isort (h : StrictWeak lt) (p : α → Bool) (l : List α) :
    (isort lt l).filter p = isort lt (l.filter p) := by
  induction l with
  | nil => rfl
  | cons a l ih =>
    rw [isort_cons, filter_insertBy lt h p a _ (sorted_isort lt h l), ih, List.filter_cons]
    cases p a <;> rfl

theorem insertBy_all_lt (a : α) (l : List α) (h : ∀ y ∈ l, lt y a = true) : insertBy lt a l = l ++ [a] := by
  induction l with
  | nil => rfl
  | cons b rest ih =>
    rw [insertBy, if_pos (h b (List.mem_cons_self ..)), ih fun y hy => h y (List.mem_cons_of_mem _ hy)]
    rfl

theorem isort_sorted (l : List α) (h : SortedBy lt l) : isort lt l = l := by
  induction l with
  | nil => rfl
  | cons a rest ih =>
    have hp := List.pairwise_cons.mp h
    rw [isort_cons, ih hp.2, insertBy_of_forall lt a rest hp.1]

theorem isort_reverse (l : List α) (h : l.Pairwise (fun a b => lt b a = true)) : isort lt l = l.reverse := by
  induction l with
  | nil => rfl
  | cons a rest ih =>
    have hp := List.pairwise_cons.mp h
    rw [isort_cons, ih hp.2, insertBy_all_lt lt a _ fun y hy => hp.1 y (List.mem_reverse.mp hy),
      List.reverse_cons]

theorem sorted_perm_eq : ∀ (l1 l2 : List α), l1.Perm l2 → SortedBy lt l1 → SortedBy lt l2 →
    (∀ x ∈ l1, ∀ y ∈ l1, x ≠ y → lt x y = true ∨ lt y x = true) → l1 = l2
  | [], _, hp, _, _, _ => hp.nil_eq
  | _ :: _, [], hp, _, _, _ => absurd hp.length_eq (by simp)
  | a :: l1, b :: l2, hp, s1, s2, tot => by
    obtain ⟨s1a, s1'⟩ := List.pairwise_cons.1 s1
    obtain ⟨s2b, s2'⟩ := List.pairwise_cons.1 s2
    have hab : a = b := by
      -- otherwise each head occurs in the other tail, so neither is below the other
      by_cases e : a = b
      · exact e
      · have ha2 : a ∈ l2 := (List.mem_cons.1 (hp.subset List.mem_cons_self)).resolve_left e
        have hb1 : b ∈ l1 := (List.mem_cons.1 (hp.symm.subset List.mem_cons_self)).resolve_left (Ne.symm e)
        rcases tot a List.mem_cons_self b (List.mem_cons_of_mem _ hb1) e with h | h
        · rw [s2b a ha2] at h; cases h
        · rw [s1a b hb1] at h; cases h
    subst hab
    rw [sorted_perm_eq l1 l2 hp.cons_inv s1' s2' fun x hx y hy => tot x (List.mem_cons_of_mem _ hx) y (List.mem_cons_of_mem _ hy)]

theorem isort_lift {β : Type} (lt' : β → β → Bool) (g : α → β) (hg : ∀ a b, lt' (g a) (g b) = lt a b)
    (sw : StrictWeak lt) {l1 l2 : List α} (hp : l1.Perm l2)
    (tot : ∀ x ∈ l1, ∀ y ∈ l1, x ≠ y → lt x y = true ∨ lt y x = true) :
    isort lt' (l1.map g) = (isort lt l2).map g := by
  rw [isort_map lt lt' g hg]
  congr 1
  exact sorted_perm_eq lt _ _ ((isort_perm lt _).trans (hp.trans (isort_perm lt _).symm)) (sorted_isort lt sw _)
    (sorted_isort lt sw _) fun x hx y hy => tot x ((mem_isort lt x _).1 hx) y ((mem_isort lt y _).1 hy)

theorem fwdLt_strictWeak : StrictWeak fwdLt := by
  constructor
  · intro a b h
    simp only [fwdLt, Bool.or_eq_true, Bool.and_eq_true, decide_eq_true_eq] at h
    simp only [fwdLt, Bool.or_eq_false_iff, Bool.and_eq_false_iff, decide_eq_false_iff_not]
    omega
  · intro a b c h1 h2
    simp only [fwdLt, Bool.or_eq_false_iff, Bool.and_eq_false_iff, decide_eq_false_iff_not] at h1 h2 ⊢
    omega

theorem revLt_strictWeak : StrictWeak revLt := by
  constructor
  · intro a b h
    simp only [revLt, Bool.or_eq_true, Bool.and_eq_true, decide_eq_true_eq] at h
    simp only [revLt, Bool.or_eq_false_iff, Bool.and_eq_false_iff, decide_eq_false_iff_not]
    omega
  · intro a b c h1 h2
    simp only [revLt, Bool.or_eq_false_iff, Bool.and_eq_false_iff, decide_eq_false_iff_not] at h1 h2 ⊢
    omega

end Tr
