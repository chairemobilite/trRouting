/-
  TrVerif.Proofs.Tables — small facts about what a calculation reads before and after its scans: the walking-router
  tables (`routerLookup`, `minTime`, `maxTime`), the tables a scan starts from (`FState.init`, `RState.init`: folds of
  point updates over the access / egress lists), and the loop that collects the stops of an accessibility answer
  (`collectNodes`).
-/
import TrVerif.Model.Calc
import TrVerif.Proofs.Fold
namespace Tr

variable {α : Type}

theorem nodes_mem {l : List NTD} {s : Nat} {a : NTD} (h : l.find? (·.stop = s) = some a) : a ∈ l ∧ a.stop = s :=
  ⟨List.mem_of_find?_eq_some h, by simpa using List.find?_some h⟩

theorem nodes_mem_mk {l : List NTD} {s : Nat} {a : NTD} (h : l.find? (·.stop = s) = some a) :
    (⟨s, a.time, a.dist⟩ : NTD) ∈ l := by
  obtain ⟨hm, rfl⟩ := nodes_mem h
  exact hm

theorem foldl_upd_enter (l : List NTD) (f : Nat → JStep) (h : ∀ y, (f y).enter = none) :
    ∀ y, ((l.foldl (fun g e => upd g e.stop ({ walk := e.time, dist := e.dist } : JStep)) f) y).enter = none :=
  foldl_upd_all (fun js : JStep => js.enter = none) NTD.stop (fun e : NTD => { walk := e.time, dist := e.dist })
    (fun _ _ => rfl) h

theorem foldl_upd_untouched (g : NTD → α) (s : Nat) (l : List NTD) (f : Nat → α) (h : ∀ e ∈ l, e.stop ≠ s) :
    (l.foldl (fun f e => upd f e.stop (g e)) f) s = f s :=
  foldl_inv (fun f' : Nat → α => f' s = f s)
    (fun f' e he hI => (upd_other f' e.stop s (g e) fun e' => h e he e'.symm).trans hI) rfl

theorem foldl_upd_nodup (g : NTD → α) :
    ∀ (l : List NTD) (f : Nat → α), (l.map (·.stop)).Nodup → ∀ a ∈ l, (l.foldl (fun f e => upd f e.stop (g e)) f) a.stop = g a := by
  intro l
  induction l with
  | nil => intro f _ a ha; cases ha
  | cons b rest ih =>
    intro f hnd a ha
    rw [List.map_cons, List.nodup_cons] at hnd
    rw [List.foldl_cons]
    rcases List.mem_cons.mp ha with rfl | h
    · rw [foldl_upd_untouched g a.stop rest _ (fun e he hs => hnd.1 (by rw [← hs]; exact List.mem_map_of_mem he))]
      exact upd_same _ _ _
    · exact ih _ hnd.2 a h

theorem effWait_nonneg (c : Conn) (d : Int) (hd : 0 ≤ d) : 0 ≤ c.effWait d := by
  unfold Conn.effWait; split <;> omega

theorem nodes_find_nodup {l : List NTD} (hnd : (l.map (·.stop)).Nodup) {g : NTD} (hg : g ∈ l) :
    l.find? (fun x => decide (x.stop = g.stop)) = some g := by
  induction l with
  | nil => cases hg
  | cons x rest ih =>
    rw [List.map_cons, List.nodup_cons] at hnd
    rcases List.mem_cons.mp hg with rfl | hm'
    · simp
    · have hx : x.stop ≠ g.stop := by
        intro hh; exact hnd.1 (by rw [hh]; exact List.mem_map_of_mem hm')
      rw [List.find?_cons]
      simp only [hx, decide_false]
      exact ih hnd.2 hm'

theorem minTime_le (l : List NTD) : ∀ a ∈ l, minTime l ≤ a.time := fun a ha =>
  foldl_of_mem (fun _ => True) (fun m : Int => m ≤ a.time) (fun _ _ _ => trivial)
    (fun m _ => by show (if _ then _ else _) ≤ a.time; split <;> omega)
    (fun m b h => by show (if _ then _ else _) ≤ a.time; split <;> omega) l MAX_INT ha trivial

theorem maxTime_ge (l : List NTD) : ∀ a ∈ l, a.time ≤ maxTime l := fun a ha =>
  foldl_of_mem (fun _ => True) (fun m : Int => a.time ≤ m) (fun _ _ _ => trivial)
    (fun m _ => by show a.time ≤ if _ then _ else _; split <;> omega)
    (fun m b h => by show a.time ≤ if _ then _ else _; split <;> omega) l (-1) ha trivial

theorem routerLookup_le (tab : List NTD) (m : Int) : ∀ n ∈ routerLookup tab m, n.time ≤ m ∧ n ∈ tab := by
  intro n hn
  simp only [routerLookup, List.mem_filter, decide_eq_true_eq] at hn
  exact ⟨hn.2, hn.1⟩

theorem routerLookup_nodup (tab : List NTD) (m : Int) (h : (tab.map (·.stop)).Nodup) :
    ((routerLookup tab m).map (·.stop)).Nodup :=
  List.Nodup.sublist (List.Sublist.map _ List.filter_sublist) h

theorem minTime_nonneg (l : List NTD) (h : ∀ a ∈ l, 0 ≤ a.time) : 0 ≤ minTime l :=
  foldl_inv (fun m : Int => 0 ≤ m) (fun m a ha hm => by split; exact h a ha; exact hm) (by simp [MAX_INT])

theorem minTime_routerLookup_nonneg {l : List NTD} (h : ∀ a ∈ l, 0 ≤ a.time) (m : Int) : 0 ≤ minTime (routerLookup l m) :=
  minTime_nonneg _ fun a ha => h a (List.mem_filter.mp ha).1

theorem mkCtx_cs (ds : Dataset) (p : Params) (cs : ConnSet) (acc egr : List NTD) (d t : Int) :
    (mkCtx ds p cs acc egr d t).cs = cs := rfl

theorem collectNodes_noRouting (f : Nat → Outcome (Option AccNode)) :
    ∀ (ns : List Nat) (acc : List AccNode) (r : Reason), collectNodes f ns acc = .noRouting r → ∃ n ∈ ns, f n = .noRouting r
  | [], _, _, h => nomatch h
  | n :: ns, acc, r, h => by
    unfold collectNodes at h
    split at h
    · obtain ⟨m, hm, e⟩ := collectNodes_noRouting f ns _ r h
      exact ⟨m, List.mem_cons_of_mem _ hm, e⟩
    · obtain ⟨m, hm, e⟩ := collectNodes_noRouting f ns _ r h
      exact ⟨m, List.mem_cons_of_mem _ hm, e⟩
    · cases h
      exact ⟨n, List.mem_cons_self, ‹_›⟩
    · cases h

/-- induction along `collectNodes`: `P` speaks of the stops still to visit and the nodes collected so far -/
theorem collectNodes_rec (f : Nat → Outcome (Option AccNode)) (P : List Nat → List AccNode → Prop)
    (hsome : ∀ n ns acc b, f n = .ok (some b) → P (n :: ns) acc → P ns (acc ++ [b]))
    (hnone : ∀ n ns acc, f n = .ok none → P (n :: ns) acc → P ns acc) :
    ∀ (ns : List Nat) (acc l : List AccNode), collectNodes f ns acc = .ok l → P ns acc → P [] l
  | [], acc, l, h, hp => by cases h; exact hp
  | n :: ns, acc, l, h, hp => by
    unfold collectNodes at h
    split at h
    · next b hf => exact collectNodes_rec f P hsome hnone ns _ l h (hsome n ns acc b hf hp)
    · next hf => exact collectNodes_rec f P hsome hnone ns _ l h (hnone n ns acc hf hp)
    · cases h
    · cases h

theorem collectNodes_mem (f : Nat → Outcome (Option AccNode)) (ns : List Nat) (acc l : List AccNode)
    (h : collectNodes f ns acc = .ok l) : ∀ a ∈ l, a ∈ acc ∨ ∃ n ∈ ns, f n = .ok (some a) := by
  intro a ha
  refine collectNodes_rec f (fun ns' acc' => (a ∈ acc' ∨ ∃ n ∈ ns', f n = .ok (some a)) → a ∈ acc ∨ ∃ n ∈ ns, f n = .ok (some a))
    ?_ ?_ ns acc l h id (Or.inl ha)
  · intro n ns' acc' b hf hp hor
    refine hp (hor.elim (fun h1 => ?_) fun ⟨m, hm, hfm⟩ => Or.inr ⟨m, List.mem_cons_of_mem _ hm, hfm⟩)
    rcases List.mem_append.mp h1 with h2 | h2
    · exact Or.inl h2
    · cases List.mem_singleton.1 h2; exact Or.inr ⟨n, List.mem_cons_self, hf⟩
  · intro n ns' acc' _ hp hor
    exact hp (hor.imp_right fun ⟨m, hm, hfm⟩ => ⟨m, List.mem_cons_of_mem _ hm, hfm⟩)

theorem collectNodes_sorted (f : Nat → Outcome (Option AccNode)) (hstop : ∀ n a, f n = .ok (some a) → a.stop = n)
    (ns : List Nat) (acc l : List AccNode) (h : collectNodes f ns acc = .ok l)
    (hp : (acc.map (·.stop) ++ ns).Pairwise (· < ·)) : (l.map (·.stop)).Pairwise (· < ·) := by
  have := collectNodes_rec f (fun ns acc => (acc.map (·.stop) ++ ns).Pairwise (· < ·)) ?_ ?_ ns acc l h hp
  · simpa using this
  · intro n ns acc b hf hp
    simpa [hstop n b hf] using hp
  · intro n ns acc _ hp
    exact hp.sublist (List.Sublist.append_left (List.sublist_cons_self n ns) _)

theorem collectNodes_all (f : Nat → Outcome (Option AccNode)) (ns : List Nat) (acc l : List AccNode)
    (h : collectNodes f ns acc = .ok l) :
    (∀ a ∈ acc, a ∈ l) ∧ ∀ n ∈ ns, ∃ o, f n = .ok o ∧ ∀ a, o = some a → a ∈ l := by
  refine collectNodes_rec f (fun ns' acc' => ((∀ a ∈ acc', a ∈ l) ∧ ∀ n ∈ ns', ∃ o, f n = .ok o ∧ ∀ a, o = some a → a ∈ l) →
    (∀ a ∈ acc, a ∈ l) ∧ ∀ n ∈ ns, ∃ o, f n = .ok o ∧ ∀ a, o = some a → a ∈ l) ?_ ?_ ns acc l h id
    ⟨fun _ ha => ha, fun _ hn => nomatch hn⟩
  · intro n ns' acc' b hf hp ⟨h1, h2⟩
    refine hp ⟨fun a ha => h1 a (List.mem_append_left _ ha), fun m hm => ?_⟩
    rcases List.mem_cons.mp hm with rfl | hm
    · exact ⟨some b, hf, fun a ha => by cases ha; exact h1 b (List.mem_append_right _ (List.mem_singleton_self b))⟩
    · exact h2 m hm
  · intro n ns' acc' hf hp ⟨h1, h2⟩
    refine hp ⟨h1, fun m hm => ?_⟩
    rcases List.mem_cons.mp hm with rfl | hm
    · exact ⟨none, hf, fun a ha => nomatch ha⟩
    · exact h2 m hm

/-- the walking router lists every stop at most once around the destination (then the entry the
    reconstruction looks up is the one that seeded the label) -/
def Ctx.EgrNodup (cx : Ctx) : Prop := (cx.egressFoot.map (·.stop)).Nodup

theorem init_lab_egress {cx : Ctx} (hnd : cx.EgrNodup) {eg : NTD} (h : eg ∈ cx.egressFoot) :
    (RState.init cx).lab eg.stop = cx.arrT - eg.time := by
  unfold RState.init
  exact foldl_upd_nodup (fun e => cx.arrT - e.time) cx.egressFoot _ hnd eg h

theorem init_lab_untouched (cx : Ctx) (z : Nat) (h : cx.nodesEgress z = none) : (RState.init cx).lab z = -1 := by
  unfold RState.init
  simp only
  rw [foldl_upd_untouched (fun e => cx.arrT - e.time) z cx.egressFoot (fun _ => -1)]
  intro e he hs
  have := List.find?_eq_none.mp h e he
  simp [hs] at this

theorem init_lab_none (cx : Ctx) (y : Nat) (h : ∀ g ∈ cx.egressFoot, g.stop ≠ y) : (RState.init cx).lab y = -1 := by
  unfold RState.init
  exact foldl_upd_untouched (fun e => cx.arrT - e.time) y cx.egressFoot _ h

theorem init_tent_access (cx : Ctx) (hnd : (cx.accessFoot.map (·.stop)).Nodup) {a : NTD} (h : a ∈ cx.accessFoot) :
    (FState.init cx).tent a.stop = cx.depT + a.time := by
  unfold FState.init
  exact foldl_upd_nodup (fun e => cx.depT + e.time) cx.accessFoot _ hnd a h

theorem init_tent_none (cx : Ctx) (y : Nat) (h : ∀ a ∈ cx.accessFoot, a.stop ≠ y) : (FState.init cx).tent y = MAX_INT := by
  unfold FState.init
  exact foldl_upd_untouched (fun e => cx.depT + e.time) y cx.accessFoot _ h

end Tr
