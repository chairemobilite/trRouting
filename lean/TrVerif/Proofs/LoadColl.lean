/-
  Proofs/LoadColl — round trip of the collection files: what the loaders build from `encode ds`
  for agencies, services, lines, paths and scenarios.
-/
import TrVerif.Proofs.LoadMaps
namespace Tr.Load

/-- the collection loaders read the records of `encode` in key order, so every insertion appends (`hstep`) -/
theorem loop_enc {ρ β α} (k : Nat) (loop : List ρ → Map α → Int × Map α) (enc : Nat → List β → List ρ) (g : Nat → β → α)
    (ok : β → Prop) (hnil : ∀ i m, loop (enc i []) m = (0, m))
    (hstep : ∀ i x xs m, ok x → (∀ p ∈ m, p.1 < K k i) →
      loop (enc i (x :: xs)) m = loop (enc (i+1) xs) (m ++ [(K k i, g i x)]))
    (xs : List β) (hok : ∀ x ∈ xs, ok x) : loop (enc 0 xs) [] = (0, expFrom k g 0 xs) := by
  have from_ : ∀ (xs : List β) (i : Nat) (m : Map α), (∀ x ∈ xs, ok x) → (∀ p ∈ m, p.1 < K k i) →
      loop (enc i xs) m = (0, m ++ expFrom k g i xs) := by
    intro xs
    induction xs with
    | nil => intro i m _ _; rw [hnil, expFrom, List.append_nil]
    | cons x xs ih =>
      intro i m hok h
      rw [hstep i x xs m (hok x List.mem_cons_self) h,
        ih (i+1) _ (fun y hy => hok y (List.mem_cons_of_mem _ hy)) (Map.lt_append_last m k i _ h), expFrom, List.append_assoc]
      rfl
  exact from_ xs 0 [] hok fun _ h => nomatch h

theorem getIds_enc (k n : Nat) : getIds (.ok, idsFrom k 0 n) = (0, expIds k n) := by
  have h := loop_enc k idsLoop (fun i l => idsFrom k i l.length) (fun _ _ => ()) (fun _ => True) (fun _ _ => rfl)
    (fun i _ xs m _ h => by rw [List.length_cons, idsFrom, idsLoop]; simp only [UTok.parse]; rw [Map.set_last m _ _ h])
    (List.replicate n ()) (fun _ _ => trivial)
  rwa [List.length_replicate] at h

theorem expIds_has (k n j : Nat) : (expIds k n).has (K k j) = decide (j < n) := by
  unfold expIds; rw [expFrom_has]; simp

theorem modeName_known (m : Nat) : Gen.modeNames.contains (modeName m) = true := by
  unfold modeName
  split
  · decide +kernel
  · split <;> decide +kernel

theorem linesLoop_enc (ag : Map Unit) (nA : Nat) (hag : ∀ a, ag.has (K 2 a) = decide (a < nA)) :
    ∀ (ls : List LineRec), (∀ l ∈ ls, l.agency < nA) → linesLoop ag (encLinesFrom 0 ls) [] = (0, expFrom 4 gLine 0 ls) :=
  loop_enc 4 (linesLoop ag) encLinesFrom gLine (·.agency < nA) (fun _ _ => rfl) fun i l ls m hl h => by
    rw [encLinesFrom, linesLoop]
    simp only [UTok.parse]
    rw [if_pos ⟨by rw [hag]; simpa using hl, modeName_known _⟩, Map.emplace_last m _ _ h]
    rfl

theorem resolveNodes_enc (nodes : Map LNode) : ∀ (stops : List Nat), (∀ s ∈ stops, nodes.has (K 1 s) = true) →
    resolveNodes nodes (stops.map fun s => UTok.id (K 1 s)) = some (stops.map (K 1)) := by
  intro stops
  induction stops with
  | nil => intro _; rfl
  | cons s ss ih =>
    intro h
    simp only [List.map_cons, resolveNodes, UTok.parse]
    rw [if_pos (h s (by simp)), ih (fun x hx => h x (List.mem_cons_of_mem _ hx))]; rfl

theorem segLoop_enc (dist : List Int) : ∀ (n k : Nat), segLoop n (encSegsFrom dist k n) = some ((dist.drop k).take n) := by
  intro n
  induction n with
  | zero => intro k; simp [segLoop]
  | succ n ih =>
    intro k
    rw [encSegsFrom]
    by_cases hk : k < dist.length
    · rw [List.getElem?_eq_getElem hk]
      simp only [segLoop]
      rw [if_neg (by simp), ih (k+1)]
      have hd : List.drop k dist = dist[k] :: List.drop (k+1) dist := List.drop_eq_getElem_cons hk
      simp only [Option.map_some, hd, List.take_succ_cons]
    · have hk' : dist.length ≤ k := Nat.le_of_not_lt hk
      rw [List.getElem?_eq_none hk']
      simp only [segLoop]
      rw [ih (k+1), List.drop_eq_nil_of_le hk', List.drop_eq_nil_of_le (Nat.le_succ_of_le hk')]; simp

theorem pathsLoop_enc (lines : Map LLine) (nodes : Map LNode) (nL nS : Nat)
    (hl : ∀ a, lines.has (K 4 a) = decide (a < nL)) (hn : ∀ a, nodes.has (K 1 a) = decide (a < nS)) :
    ∀ (ps : List PathRec), (∀ p ∈ ps, p.line < nL ∧ ∀ s ∈ p.stops, s < nS) →
    pathsLoop lines nodes (encPathsFrom 0 ps) [] = (0, expFrom 5 gPath 0 ps) :=
  loop_enc 5 (pathsLoop lines nodes) encPathsFrom gPath (fun p => p.line < nL ∧ ∀ s ∈ p.stops, s < nS) (fun _ _ => rfl)
    fun i p ps m h1 h => by
      rw [encPathsFrom, pathsLoop]
      simp only [UTok.parse]
      rw [resolveNodes_enc nodes p.stops (fun s hs => by rw [hn]; simpa using h1.2 s hs)]
      simp only [encSegs, List.length_map, segLoop_enc, List.drop_zero]
      rw [if_pos (by rw [hl]; simpa using h1.1), Map.emplace_last m _ _ h]
      rfl

theorem resolveList_ids (known : Nat → Bool) (kind n : Nat) (hk : ∀ a, known (K kind a) = decide (a < n)) :
    ∀ (l : List Nat), (∀ x ∈ l, x < n) →
    resolveList (byId known) (l.map fun x => Tok.u (.id (K kind x))) = some (l.map fun x => Val.id (K kind x))
  | [], _ => rfl
  | x :: xs, h => by
    simp only [List.map_cons, resolveList, byId, UTok.parse]
    rw [if_pos (by rw [hk]; simpa using h x (by simp))]
    simp only
    rw [resolveList_ids known kind n hk xs fun y hy => h y (List.mem_cons_of_mem _ hy)]; rfl

theorem resolveList_modes : ∀ (l : List Nat),
    resolveList byMode (l.map fun x => Tok.s (modeName x)) = some (l.map fun x => Val.mode (modeName x)) := by
  intro l
  induction l with
  | nil => rfl
  | cons x xs ih =>
    simp only [List.map_cons, resolveList, byMode]
    rw [if_pos (modeName_known x)]
    simp only
    rw [ih]; rfl

theorem resolveList_nil (f : Tok → R) : resolveList f [] = some [] := rfl

theorem assign_enc (kn : Known) (nSv nL nA : Nat)
    (hs : ∀ a, kn.services (K 3 a) = decide (a < nSv)) (hl : ∀ a, kn.lines (K 4 a) = decide (a < nL))
    (ha : ∀ a, kn.agencies (K 2 a) = decide (a < nA)) (i : Nat) (sc : Scenario) (hr : ScenInRange nSv nL nA sc) :
    assignLists kn 0 (encScenario i sc).lists {} = (false, gScen i sc) := by
  have e0 := resolveList_ids kn.services 3 nSv hs sc.services hr.sv
  have e1 := resolveList_ids kn.lines 4 nL hl sc.onlyLines hr.ol
  have e2 := resolveList_ids kn.agencies 2 nA ha sc.onlyAgencies hr.oa
  have e5 := resolveList_ids kn.lines 4 nL hl sc.exceptLines hr.el
  have e6 := resolveList_ids kn.agencies 2 nA ha sc.exceptAgencies hr.ea
  have e4 := resolveList_modes sc.onlyModes
  have e8 := resolveList_modes sc.exceptModes
  simp only [encScenario, assignLists, Known.resolver, e0, e1, e2, e4, e5, e6, e8, resolveList_nil, gScen]
  rfl

theorem scenLoop_enc (kn : Known) (nSv nL nA : Nat)
    (hs : ∀ a, kn.services (K 3 a) = decide (a < nSv)) (hl : ∀ a, kn.lines (K 4 a) = decide (a < nL))
    (ha : ∀ a, kn.agencies (K 2 a) = decide (a < nA)) :
    ∀ (ss : List Scenario), (∀ sc ∈ ss, ScenInRange nSv nL nA sc) →
    scenLoop kn (encScenariosFrom 0 ss) [] = (0, expFrom 6 gScen 0 ss) :=
  loop_enc 6 (scenLoop kn) encScenariosFrom gScen (ScenInRange nSv nL nA) (fun _ _ => rfl) fun i sc ss m hr h => by
    rw [encScenariosFrom, scenLoop]
    have hu : (encScenario i sc).uuid.parse = some (K 6 i) := rfl
    have hsim : (encScenario i sc).sim = .empty := rfl
    simp only [hu, hsim]
    rw [if_neg (by decide)]
    -- the key is new: `ts[uuid]` starts from the default entry
    simp only [show m.get? (K 6 i) = none from Map.lookup_none_of_lt m _ h, Option.getD_none]
    rw [assign_enc kn nSv nL nA hs hl ha i sc hr]
    simp only
    rw [Map.set_last m _ _ h]

end Tr.Load
