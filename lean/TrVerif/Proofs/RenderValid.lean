/-
  TrVerif.Proofs.RenderValid — valid legs are rendered (by `stepsOfLegs`) to valid rides; `emit_valid`
  (`Proofs/Assembly.lean`) adds the access step.
-/
import TrVerif.Proofs.JourneyValid
import TrVerif.Proofs.DataFacts
import TrVerif.Spec.Itinerary
namespace Tr

theorem Ride.rideOK {C T : List Conn} (hCT : ∀ c ∈ C, c ∈ T) {e x : Conn} (hr : Ride C e x) (ds : Dataset) (t : Int) :
    RideOK T (boardOf t e) (unboardOf ds e x) :=
  ⟨e, hCT _ hr.enter_mem, x, hCT _ hr.exit_mem, hr.trip_eq, hr.seq_le, hr.canBoard, hr.canUnboard, rfl, _, _,
    by rw [unboardOf, hr.trip_eq]⟩

theorem stepsOfLegs_valid (cx : Ctx) (C T : List Conn) (hCT : ∀ c ∈ C, c ∈ T) (mwOf : Nat → Int)
    (egress : List NTD) (egr : JStep) :
    ∀ (legs : List JStep) (t : Int), legs ≠ [] → LegsOK cx C legs →
      (∀ l ∈ legs, ∀ e, l.enter = some e → e.effWait cx.p.minWait = mwOf e.trip) →
      (∀ e, legs.head?.bind (·.enter) = some e → t + e.effWait cx.p.minWait ≤ e.dep) →
      (∀ l x, legs.getLast? = some l → l.exit = some x → ∃ d, (⟨x.arrStop, egr.walk, d⟩ : NTD) ∈ egress) →
      ridesValid T cx.ds.foot egress mwOf t (stepsOfLegs cx.ds cx.p.minWait t legs egr) := by
  intro legs
  induction legs with
  | nil => intro t h; exact absurd rfl h
  | cons l rest ih =>
    intro t _ hok hmw hfirst hlast
    cases rest with
    | nil =>
      obtain ⟨e, x, he, hx, hr⟩ := hok
      obtain ⟨d, hd⟩ := hlast l x (by simp) hx
      have ht := hfirst e (by simp [he])
      have hm := hmw l (List.mem_cons_self ..) e he
      have hride := hr.rideOK hCT cx.ds t
      simp only [stepsOfLegs, he, hx, ridesValid, boardOf, unboardOf, Step.tripOf, Step.clock, Step.stopOf] at hride ⊢
      exact ⟨hride, by rw [← hm]; exact ht, d, hd⟩
    | cons l2 r2 =>
      obtain ⟨⟨e, x, e', he, hx, hr, he', hlink⟩, hrest⟩ := hok
      have ht := hfirst e (by simp [he])
      have hm := hmw l (List.mem_cons_self ..) e he
      have hrec := ih (x.arr + l.walk) (by simp) hrest
        (fun y hy => hmw y (List.mem_cons_of_mem _ hy))
        (by intro e2 h2; simp [he'] at h2; subst h2; have := hlink.2.2; omega)
        (by intro y xx hy hxx; exact hlast y xx (by simpa using hy) hxx)
      -- the recursive part starts with the boarding of `e'`
      obtain ⟨_, x', _, hx', _⟩ := hrest.head
      obtain ⟨tail, htail⟩ := stepsOfLegs_head cx.ds cx.p.minWait egr l2 r2 (x.arr + l.walk) e' x' he' hx'
      obtain ⟨dd, hdd⟩ := hlink.1
      have hfoot := rfootOf_mem hdd
      have hride := hr.rideOK hCT cx.ds t
      rw [htail] at hrec
      simp only [stepsOfLegs, he, hx, List.cons_append, List.nil_append, htail, ridesValid, boardOf, unboardOf,
        Step.tripOf, Step.clock, Step.stopOf] at hride hrec ⊢
      exact ⟨hride, by rw [← hm]; exact ht, ⟨dd, hfoot⟩, hrec⟩

end Tr
