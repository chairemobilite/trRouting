/-
  TrVerif.Proofs.Forward — soundness invariant of the forward scan (`forward_calculation.cpp`):
  every tentative time, every entered trip and every recorded alighting is justified by a journey
  (`Reach`) that leaves the place at the requested time.
-/
import TrVerif.Proofs.Tables
import TrVerif.Proofs.Fold
namespace Tr

/-- a traveller leaving the place at `cx.depT` can stand at stop `y` at time `t`: by the access walk, or after a
    ride of one trip of `C` followed by one footpath within the transfer maximum -/
inductive Reach (cx : Ctx) (C : List Conn) : Nat → Int → Prop
  | access (a : NTD) : a ∈ cx.accessFoot → Reach cx C a.stop (cx.depT + a.time)
  | ride (y : Nat) (t : Int) (e x : Conn) (f : NTD) :
      Reach cx C y t → e ∈ C → x ∈ C → e.depStop = y → t + e.effWait cx.p.minWait ≤ e.dep →
      e.trip = x.trip → e.seq ≤ x.seq → e.canBoard = true → x.canUnboard = true → cx.disabled e.trip = false →
      f ∈ cx.ds.footOf x.arrStop → f.time ≤ cx.p.maxTransfer → Reach cx C f.stop (x.arr + f.time)

def Boardable (cx : Ctx) (C : List Conn) (e : Conn) : Prop :=
  e ∈ C ∧ e.canBoard = true ∧ cx.disabled e.trip = false ∧
    ∃ t, Reach cx C e.depStop t ∧ t + e.effWait cx.p.minWait ≤ e.dep

structure FInv (cx : Ctx) (C pre : List Conn) (s : FState) : Prop where
  tent : ∀ y, s.tent y < MAX_INT → Reach cx C y (s.tent y)
  enter : ∀ T e, s.enterC T = some e → e ∈ pre ∧ e.trip = T ∧ Boardable cx C e
  egr : ∀ y js, s.egr y = some js → ∃ e x, js.enter = some e ∧ js.exit = some x ∧ x.arrStop = y ∧ x ∈ C ∧
      e.trip = x.trip ∧ e.seq ≤ x.seq ∧ x.canUnboard = true ∧ Boardable cx C e

theorem fwdLt_false {c a : Conn} (h : fwdLt c a = false) :
    a.dep ≤ c.dep ∧ (c.dep ≤ a.dep → c.trip = a.trip → a.seq ≤ c.seq) := by
  simp only [fwdLt, Bool.or_eq_false_iff, Bool.and_eq_false_iff, decide_eq_false_iff_not] at h
  refine ⟨by omega, fun hd ht => ?_⟩
  rcases h.2 with h3 | h3
  · omega
  · rcases h3.2 with h4 | h4
    · exact absurd ht h4
    · omega

theorem init_FInv (cx : Ctx) (C : List Conn) : FInv cx C [] (FState.init cx) := by
  refine ⟨?_, fun T e he => (nomatch he), fun y js h => (nomatch h)⟩
  exact foldl_inv (fun t : Nat → Int => ∀ y, t y < MAX_INT → Reach cx C y (t y))
    (fun t a ha ht => upd_all (P := fun y v => v < MAX_INT → Reach cx C y v) (fun _ => Reach.access a ha) ht)
    (fun y h => absurd h (Int.lt_irrefl _))

def footStep (s : FState) (c : Conn) (f : NTD) : JStep :=
  { enter := s.enterC c.trip, exit := some c, walk := f.time, dist := f.dist }

def fwdFootTent (c : Conn) (s : FState) (f : NTD) : FState :=
  if f.time + c.arr < s.tent f.stop then
    { s with tent := upd s.tent f.stop (f.time + c.arr), steps := upd s.steps f.stop (footStep s c f) }
  else s

theorem fwdFootTent_le (c : Conn) (s : FState) (f : NTD) (z : Nat) : (fwdFootTent c s f).tent z ≤ s.tent z := by
  unfold fwdFootTent
  split
  · next h3 => exact upd_all (P := fun z v => v ≤ s.tent z) (Int.le_of_lt h3) (fun _ => Int.le_refl _) z
  · exact Int.le_refl _

def fwdFootEgr (c : Conn) (js : JStep) (s : FState) (f : NTD) : FState :=
  if f.stop = c.arrStop ∧ ((s.egr f.stop).all fun e => e.exit.any fun x => decide (x.arr > c.arr)) then
    { s with egr := upd s.egr f.stop (some js) }
  else s

theorem fwdFoot_eq (cx : Ctx) (c : Conn) (s : FState) (f : NTD) : fwdFoot cx c s f =
    if f.stop ≠ c.arrStop ∧ s.tent f.stop < c.arr then s
    else if f.time ≤ cx.p.maxTransfer then fwdFootEgr c (footStep s c f) (fwdFootTent c s f) f else s := rfl

theorem fwdFoot_ind {I : FState → Prop} (cx : Ctx) (c : Conn) (s : FState) (f : NTD) (h : I s)
    (step : f.time ≤ cx.p.maxTransfer → I (fwdFootEgr c (footStep s c f) (fwdFootTent c s f) f)) : I (fwdFoot cx c s f) := by
  rw [fwdFoot_eq]
  split
  · exact h
  · split
    · next h2 => exact step h2
    · exact h

theorem fwdFoot_frame (cx : Ctx) (c : Conn) (s : FState) (f : NTD) : fwdFoot cx c s f =
    { s with tent := (fwdFoot cx c s f).tent, steps := (fwdFoot cx c s f).steps, egr := (fwdFoot cx c s f).egr } := by
  refine fwdFoot_ind (I := fun t => t = { s with tent := t.tent, steps := t.steps, egr := t.egr }) cx c s f rfl fun _ => ?_
  unfold fwdFootEgr fwdFootTent
  split <;> split <;> rfl

theorem fwdFoot_enterC (cx : Ctx) (c : Conn) (s : FState) (f : NTD) : (fwdFoot cx c s f).enterC = s.enterC := by
  rw [fwdFoot_frame]

theorem fwdFoot_inv {cx : Ctx} {C pre : List Conn} {s : FState} {c e : Conn} {f : NTD} (h : FInv cx C pre s)
    (hc : c ∈ C) (he : s.enterC c.trip = some e) (hseq : e.seq ≤ c.seq) (hcu : c.canUnboard = true)
    (hf : f ∈ cx.ds.footOf c.arrStop) : FInv cx C pre (fwdFoot cx c s f) := by
  obtain ⟨_, hetrip, hemem, hecb, hedis, t, hr, ht⟩ := h.enter c.trip e he
  refine fwdFoot_ind cx c s f h fun h2 => ?_
  have hreach : Reach cx C f.stop (f.time + c.arr) :=
    Int.add_comm c.arr f.time ▸ Reach.ride e.depStop t e c f hr hemem hc rfl ht hetrip hseq hecb hcu hedis hf h2
  have hs1 : FInv cx C pre (fwdFootTent c s f) := by
    unfold fwdFootTent
    split
    · exact ⟨upd_all (P := fun y v => v < MAX_INT → Reach cx C y v) (fun _ => hreach) h.tent, h.enter, h.egr⟩
    · exact h
  unfold fwdFootEgr
  split
  · next h4 =>
    refine ⟨hs1.tent, hs1.enter, fun y js hjs => ?_⟩
    by_cases hyf : y = f.stop
    · subst hyf
      simp only [upd_same, Option.some.injEq] at hjs
      subst hjs
      exact ⟨e, c, he, rfl, h4.1.symm, hc, hetrip, hseq, hcu, hemem, hecb, hedis, t, hr, ht⟩
    · exact hs1.egr y js (by simpa only [upd_other _ _ _ _ hyf] using hjs)
  · exact hs1

/-! The body of `fwdStep` cut into named pieces; `fwdStep_eq` puts them together again and holds by `rfl`. -/

def fwdBoardS (s : FState) (c : Conn) : FState :=
  if c.canBoard ∧ (s.enterC c.trip).isNone then
    { s with usable := upd s.usable c.trip true, enterC := upd s.enterC c.trip (some c) }
  else s

def fwdAlightS (cx : Ctx) (single : Bool) (s1 : FState) (c : Conn) : FState :=
  if c.canUnboard ∧ (s1.enterC c.trip).isSome then
    let s1' : FState := if single ∧ ¬ s1.reached ∧
        ((cx.nodesEgress c.arrStop).any fun (e : NTD) => decide (e.time ≠ -1)) then
        { s1 with reached := true, tentEgrArr := c.arr }
      else s1
    (cx.ds.footOf c.arrStop).foldl (fwdFoot cx c) s1'
  else s1

def fwdGuardP (cx : Ctx) (s : FState) (c : Conn) : Prop :=
  ((s.enterC c.trip).isSome ∨ s.tent c.depStop ≤ c.dep - c.effWait cx.p.minWait) ∧
  (¬ (decide (cx.p.maxFirstWait > 0) && ((cx.nodesAccess c.depStop).any fun a => decide (a.time ≥ 0)) && (s.steps c.depStop).enter.isNone) = true ∨
    c.dep - s.tent c.depStop ≤ cx.p.maxFirstWait)

instance (cx : Ctx) (s : FState) (c : Conn) : Decidable (fwdGuardP cx s c) := by unfold fwdGuardP; exact inferInstance

def fwdBreakP (cx : Ctx) (single : Bool) (s : FState) (c : Conn) : Prop :=
  (single ∧ s.reached ∧ cx.maxEgress ≥ 0 ∧ s.tentEgrArr < MAX_INT ∧ c.dep > s.tentEgrArr + cx.maxEgress) ∨ c.dep - cx.depT > cx.p.maxTotal

instance (cx : Ctx) (single : Bool) (s : FState) (c : Conn) : Decidable (fwdBreakP cx single s c) := by unfold fwdBreakP; exact inferInstance

theorem fwdStep_eq (cx : Ctx) (single : Bool) (s : FState) (c : Conn) :
    fwdStep cx single s c =
      if s.stop then s else
      if ¬ (c.dep ≥ cx.depT + cx.minAccess) then s else
      if cx.disabled c.trip then s else
      if fwdBreakP cx single s c then { s with stop := true } else
      if ¬ fwdGuardP cx s c then s else
      { fwdAlightS cx single (fwdBoardS s c) c with count := (fwdAlightS cx single (fwdBoardS s c) c).count + 1 } := by
  unfold fwdStep fwdBreakP fwdGuardP fwdAlightS fwdBoardS
  rfl

theorem fwdBoardS_frame (s : FState) (c : Conn) :
    fwdBoardS s c = { s with usable := (fwdBoardS s c).usable, enterC := (fwdBoardS s c).enterC } := by
  unfold fwdBoardS; split <;> rfl

theorem fwdBoardS_enterC {s : FState} {c e : Conn} {T : Nat} (h : (fwdBoardS s c).enterC T = some e) :
    s.enterC T = some e ∨ (T = c.trip ∧ e = c ∧ c.canBoard = true ∧ s.enterC c.trip = none) := by
  unfold fwdBoardS at h
  split at h
  · next hcb =>
    by_cases hT : T = c.trip
    · subst hT
      simp only [upd_same, Option.some.injEq] at h
      exact Or.inr ⟨rfl, h.symm, hcb.1, Option.isNone_iff_eq_none.mp hcb.2⟩
    · exact Or.inl (by simpa only [upd_other _ _ _ _ hT] using h)
  · exact Or.inl h

def fwdMark (cx : Ctx) (single : Bool) (s : FState) (c : Conn) : FState :=
  if single ∧ ¬ s.reached ∧ ((cx.nodesEgress c.arrStop).any fun (e : NTD) => decide (e.time ≠ -1)) then
    { s with reached := true, tentEgrArr := c.arr }
  else s

theorem fwdAlightS_eq (cx : Ctx) (single : Bool) (s : FState) (c : Conn) : fwdAlightS cx single s c =
    if c.canUnboard = true ∧ (s.enterC c.trip).isSome = true then
      (cx.ds.footOf c.arrStop).foldl (fwdFoot cx c) (fwdMark cx single s c)
    else s := rfl

theorem fwdMark_frame (cx : Ctx) (single : Bool) (s : FState) (c : Conn) : fwdMark cx single s c =
    { s with reached := (fwdMark cx single s c).reached, tentEgrArr := (fwdMark cx single s c).tentEgrArr } := by
  unfold fwdMark; split <;> rfl

theorem fwdAlightS_keeps {β : Type} (π : FState → β)
    (hπ : ∀ (s : FState) t u e r a, π { s with tent := t, steps := u, egr := e, reached := r, tentEgrArr := a } = π s)
    (cx : Ctx) (single : Bool) (s : FState) (c : Conn) : π (fwdAlightS cx single s c) = π s := by
  rw [fwdAlightS_eq]
  split
  · rw [foldl_keeps π (fun t f => by rw [fwdFoot_frame]; exact hπ t _ _ _ t.reached t.tentEgrArr), fwdMark_frame]
    exact hπ s s.tent s.steps s.egr _ _
  · rfl

theorem fwdStep_branch (cx : Ctx) (single : Bool) (s : FState) (c : Conn) :
    fwdStep cx single s c = s ∨
    (s.stop = false ∧ fwdBreakP cx single s c ∧ fwdStep cx single s c = { s with stop := true }) ∨
    (s.stop = false ∧ cx.disabled c.trip = false ∧ ¬ fwdBreakP cx single s c ∧
      ((s.enterC c.trip).isSome ∨ s.tent c.depStop ≤ c.dep - c.effWait cx.p.minWait) ∧
      fwdStep cx single s c =
        { fwdAlightS cx single (fwdBoardS s c) c with count := (fwdAlightS cx single (fwdBoardS s c) c).count + 1 }) := by
  rw [fwdStep_eq]
  split
  · exact Or.inl rfl
  · next h0 =>
    split
    · exact Or.inl rfl
    · split
      · exact Or.inl rfl
      · next h2 =>
        split
        · next h3 => exact Or.inr (Or.inl ⟨by simpa using h0, h3, rfl⟩)
        · next h3 =>
          split
          · exact Or.inl rfl
          · next h4 => exact Or.inr (Or.inr ⟨by simpa using h0, by simpa using h2, h3, (Classical.not_not.mp h4).1, rfl⟩)

theorem fwdStep_ind (P : FState → Prop) (cx : Ctx) (single : Bool) (s : FState) (c : Conn) (h0 : P s) (hbreak : P { s with stop := true })
    (hgo : P { fwdAlightS cx single (fwdBoardS s c) c with count := (fwdAlightS cx single (fwdBoardS s c) c).count + 1 }) :
    P (fwdStep cx single s c) := by
  rcases fwdStep_branch cx single s c with h | ⟨_, _, h⟩ | ⟨_, _, _, _, h⟩ <;> rw [h] <;> assumption

theorem fwdStep_cases (cx : Ctx) (single : Bool) (s : FState) (c : Conn) :
    fwdStep cx single s c = s ∨ fwdStep cx single s c = { s with stop := true } ∨
    (cx.disabled c.trip = false ∧
      ((s.enterC c.trip).isSome ∨ s.tent c.depStop ≤ c.dep - c.effWait cx.p.minWait) ∧
      fwdStep cx single s c =
        { fwdAlightS cx single (fwdBoardS s c) c with count := (fwdAlightS cx single (fwdBoardS s c) c).count + 1 }) := by
  rcases fwdStep_branch cx single s c with h | ⟨_, _, h⟩ | ⟨_, hd, _, hc, h⟩
  · exact Or.inl h
  · exact Or.inr (Or.inl h)
  · exact Or.inr (Or.inr ⟨hd, hc, h⟩)

theorem fwdStep_inv {cx : Ctx} {C pre : List Conn} {s : FState} {c : Conn} (single : Bool)
    (hdm : ∀ a ∈ C, ∀ b ∈ C, a.trip = b.trip → a.seq ≤ b.seq → a.dep ≤ b.dep)
    (hc : c ∈ C) (hpre : ∀ a ∈ pre, a ∈ C) (hbefore : ∀ a ∈ pre, fwdLt c a = false)
    (hmw : 0 ≤ cx.p.minWait) (hb : c.dep < MAX_INT) (h : FInv cx C pre s) :
    FInv cx C (pre ++ [c]) (fwdStep cx single s c) := by
  have hmono : FInv cx C (pre ++ [c]) s :=
    ⟨h.tent, fun T e he => let ⟨a, b, d⟩ := h.enter T e he; ⟨List.mem_append_left _ a, b, d⟩, h.egr⟩
  rcases fwdStep_cases cx single s c with h1 | h1 | ⟨hdis, hcond, h1⟩
  · rw [h1]; exact hmono
  · rw [h1]; exact ⟨hmono.tent, hmono.enter, hmono.egr⟩
  · rw [h1]
    have hE : FInv cx C (pre ++ [c]) (fwdBoardS s c) := by
      refine ⟨by rw [fwdBoardS_frame]; exact hmono.tent, fun T e he => ?_, by rw [fwdBoardS_frame]; exact hmono.egr⟩
      rcases fwdBoardS_enterC he with he | ⟨rfl, rfl, hcb, hn⟩
      · exact hmono.enter T e he
      · -- the trip had no boarding yet, so the second alternative of the guard held: the stop was reached in time
        have hc1 := hcond.resolve_left (by rw [hn]; simp)
        have hw := effWait_nonneg e cx.p.minWait hmw
        exact ⟨by simp, rfl, hc, hcb, hdis, s.tent e.depStop, h.tent _ (by omega), by omega⟩
    have hA : FInv cx C (pre ++ [c]) (fwdAlightS cx single (fwdBoardS s c) c) := by
      rw [fwdAlightS_eq]
      split
      · next hcu =>
        obtain ⟨e, hen⟩ := Option.isSome_iff_exists.mp hcu.2
        obtain ⟨hepre, hetrip, _⟩ := hE.enter c.trip e hen
        -- `e` was scanned no later than `c`, in the same trip: its sequence number is not larger
        have hseq : e.seq ≤ c.seq := by
          rcases List.mem_append.mp hepre with hp | hp
          · by_cases hs : e.seq ≤ c.seq
            · exact hs
            · exact (fwdLt_false (hbefore e hp)).2 (hdm c hc e (hpre e hp) hetrip.symm (by omega)) hetrip.symm
          · rw [List.mem_singleton.mp hp]; exact Nat.le_refl _
        refine (foldl_inv (fun t => FInv cx C (pre ++ [c]) t ∧ t.enterC c.trip = some e)
          (fun t f hf ht => ⟨fwdFoot_inv ht.1 hc ht.2 hseq hcu.1 hf, by rw [fwdFoot_enterC]; exact ht.2⟩) ⟨?_, ?_⟩).1 <;>
          rw [fwdMark_frame]
        · exact ⟨hE.tent, hE.enter, hE.egr⟩
        · exact hen
      · exact hE
    exact ⟨hA.tent, hA.enter, hA.egr⟩

def SortedFwd (l : List Conn) : Prop := l.Pairwise (fun a c => fwdLt c a = false)

theorem fwdScanList_inv {cx : Ctx} (single : Bool) (C : List Conn)
    (hdm : ∀ a ∈ C, ∀ b ∈ C, a.trip = b.trip → a.seq ≤ b.seq → a.dep ≤ b.dep)
    (hmw : 0 ≤ cx.p.minWait) (hb : ∀ c ∈ C, c.dep < MAX_INT) :
    ∀ (post pre : List Conn) (s : FState), (∀ a ∈ pre ++ post, a ∈ C) → SortedFwd (pre ++ post) →
      FInv cx C pre s → FInv cx C (pre ++ post) (post.foldl (fwdStep cx single) s) :=
  fun post pre s hC hs h =>
    foldl_prefix_inv (· ∈ C) (fun a c => fwdLt c a = false) (fun _ => True) (FInv cx C) (fun _ _ _ => trivial)
      (fun _ c _ hM hR _ h =>
        have hc := hM c (List.mem_append_right _ (List.mem_singleton_self c))
        fwdStep_inv single hdm hc (fun a ha => hM a (List.mem_append_left _ ha)) hR hmw (hb c hc) h)
      post pre s hC hs trivial h

theorem fwdStep_count_mono (cx : Ctx) (single : Bool) (s : FState) (c : Conn) : s.count ≤ (fwdStep cx single s c).count := by
  rcases fwdStep_cases cx single s c with h | h | ⟨_, _, h⟩
  · rw [h]; exact Nat.le_refl _
  · rw [h]; exact Nat.le_refl _
  · have : (fwdAlightS cx single (fwdBoardS s c) c).count = s.count := by
      rw [fwdAlightS_keeps (·.count) (fun _ _ _ _ _ _ => rfl), fwdBoardS_frame]
    rw [h]
    show s.count ≤ (fwdAlightS cx single (fwdBoardS s c) c).count + 1
    omega

end Tr
