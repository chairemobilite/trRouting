/-
  TrVerif.Proofs.HourIndex — the hour index of the connection lists is transparent: the position it gives for the
  hour of a request has nothing before it that a scan from the request could use, so starting there or at the first
  connection is the same (`forwardConnectionsBeginIteratorCache` / `reverseConnectionsBeginIteratorCache` and their
  lookups by hour).
-/
import TrVerif.Model.Calc
namespace Tr

theorem fwdIndexLoop_length (l : List Conn) (hour pos : Nat) (acc : List Nat) (h : acc.length = hour) :
    (fwdIndexLoop l hour pos acc).2.length = (fwdIndexLoop l hour pos acc).1 := by
  fun_induction fwdIndexLoop l hour pos acc
  case case1 => exact h
  case case2 ih => exact ih (by simp [h])
  case case3 ih => exact ih h

theorem fwdIndex_length (l : List Conn) : 32 ≤ (fwdIndex l).length := by
  have := fwdIndexLoop_length l 0 0 [] rfl
  simp only [fwdIndex]
  generalize fwdIndexLoop l 0 0 [] = r at this
  obtain ⟨hour, acc⟩ := r
  simp only at this
  simp [HOUR_END, this]; omega

theorem revInner_inv (arr : Int) (pos : Nat) (hour : Nat) (acc : List Nat) :
    (revInner arr pos hour acc).2.length + (revInner arr pos hour acc).1 = acc.length + hour := by
  fun_induction revInner arr pos hour acc
  case case1 => rfl
  case case2 ih => rw [ih]; simp; omega
  case case3 => rfl

theorem revIndexLoop_inv (l : List Conn) (hour pos : Nat) (acc : List Nat) :
    (revIndexLoop l hour pos acc).2.length + (revIndexLoop l hour pos acc).1 = acc.length + hour := by
  fun_induction revIndexLoop l hour pos acc
  case case1 => rfl
  case case2 c _ hour pos acc h' acc' heq ih =>
    have := revInner_inv c.arr pos hour acc
    rw [heq] at this
    rw [ih]; exact this

theorem revIndex_length (l : List Conn) : (revIndex l).length = 32 := by
  have := revIndexLoop_inv l (HOUR_END - 1) 0 []
  simp only [revIndex]
  generalize revIndexLoop l (HOUR_END - 1) 0 [] = r at this
  obtain ⟨hour, acc⟩ := r
  simp [HOUR_END] at this ⊢
  omega

/-- **C18 (index safety).** For every connection list and EVERY integer hour - in particular
    `time_of_trip / 3600` for any `time_of_trip`, beyond 24:00, beyond 32:00, up to the extremes of
    the integer range - neither look-up reads outside its index. -/
theorem C18_index_safe (l : List Conn) (hour : Int) :
    fwdLookup l (fwdIndex l) hour ≠ .outOfBounds ∧ revLookup l (revIndex l) hour ≠ .outOfBounds := by
  constructor
  · unfold fwdLookup
    split
    · simp
    · rename_i h
      have hl := fwdIndex_length l
      have : hour.toNat < (fwdIndex l).length := by simp [HOUR_END] at h; omega
      simp [List.getElem?_eq_getElem this]
  · unfold revLookup
    split
    · simp
    · split
      · simp
      · rename_i h1 h2
        have hl := revIndex_length l
        have : hour.toNat < (revIndex l).length := by simp [HOUR_END] at h2; omega
        simp [List.getElem?_eq_getElem this]

@[reducible] def IdxOK (all : List Conn) (acc : List Nat) : Prop :=
  ∀ (k q : Nat), acc[k]? = some q → ∀ c ∈ all.take q, c.dep < ((k : Nat) : Int) * 3600

theorem IdxOK.append {all : List Conn} {acc : List Nat} (h : IdxOK all acc) (n : Nat) {v : Nat}
    (hv : ∀ c ∈ all.take v, c.dep < (acc.length : Int) * 3600) : IdxOK all (acc ++ List.replicate n v) := by
  intro k q hq d hd
  by_cases hk : k < acc.length
  · rw [List.getElem?_append_left hk] at hq
    exact h k q hq d hd
  · rw [List.getElem?_append_right (by omega), List.getElem?_replicate] at hq
    split at hq
    · cases hq
      have := hv d hd
      omega
    · cases hq

/-- `done`: the connections already passed; `hour`: the next hour to be given an entry. -/
theorem fwdIndexLoop_spec (all : List Conn) : ∀ (cs done : List Conn) (hour : Nat) (acc : List Nat),
    all = done ++ cs → acc.length = hour → (∀ c ∈ done, c.dep < (hour : Int) * 3600) → IdxOK all acc →
    (fwdIndexLoop cs hour done.length acc).2.length = (fwdIndexLoop cs hour done.length acc).1 ∧
    (∀ c ∈ all, c.dep < ((fwdIndexLoop cs hour done.length acc).1 : Int) * 3600) ∧
    IdxOK all (fwdIndexLoop cs hour done.length acc).2 := by
  intro cs
  induction cs with
  | nil =>
    intro done hour acc hall hlen hdone hidx
    refine ⟨hlen, fun c hc => hdone c ?_, hidx⟩
    rwa [hall, List.append_nil] at hc
  | cons c rest ih =>
    intro done hour acc hall hlen hdone hidx
    have hall' : all = (done ++ [c]) ++ rest := by rw [hall, List.append_assoc]; rfl
    have hpos : (done ++ [c]).length = done.length + 1 := List.length_append
    unfold fwdIndexLoop
    rw [← hpos]
    split
    · -- `c` opens the hours up to its own: they all start at `c`, and what precedes `c` left before `hour`
      have hn : ((hour + (c.dep / 3600 - ↑hour + 1).toNat : Nat) : Int) = c.dep / 3600 + 1 := by omega
      refine ih (done ++ [c]) _ _ hall' (by simp [hlen]) (fun d hd => ?_) (hidx.append _ fun d hd => ?_)
      · rw [hn]
        rcases List.mem_append.mp hd with h1 | h1
        · have := hdone d h1; omega
        · cases List.mem_singleton.mp h1; omega
      · rw [hall, List.take_left' rfl] at hd
        rw [hlen]
        exact hdone d hd
    · refine ih (done ++ [c]) _ _ hall' hlen (fun d hd => ?_) hidx
      rcases List.mem_append.mp hd with h1 | h1
      · exact hdone d h1
      · cases List.mem_singleton.mp h1; omega

theorem fwdIndex_spec (l : List Conn) : IdxOK l (fwdIndex l) := by
  unfold fwdIndex
  have h := fwdIndexLoop_spec l l [] 0 [] rfl rfl (fun _ h => nomatch h) (fun k q h => by simp at h)
  rw [List.length_nil] at h
  generalize fwdIndexLoop l 0 0 [] = r at h
  obtain ⟨h1, h2, h3⟩ := h
  refine h3.append _ fun d hd => ?_
  rw [h1]
  exact h2 d (List.mem_of_mem_take hd)

theorem fwd_start_exists (l : List Conn) (hour : Int) : ∃ start, lookupPos (fwdLookup l (fwdIndex l) hour) = some start := by
  have := (C18_index_safe l hour).1
  cases h : fwdLookup l (fwdIndex l) hour with
  | pos p => exact ⟨p, rfl⟩
  | outOfBounds => exact absurd h this

theorem before_start_early (cs : ConnSet) (hidx : cs.fwdIdx = fwdIndex cs.fwd) (t : Int) (h0 : 0 ≤ t) (start : Nat)
    (hst : lookupPos (fwdLookup cs.fwd cs.fwdIdx (hourOf t)) = some start) (ht : t < (HOUR_END : Int) * 3600) :
    ∀ c ∈ cs.fwd.take start, c.dep < t := by
  unfold fwdLookup hourOf at hst
  have hh : ¬ (t / 3600 ≥ (HOUR_END : Int) ∨ t / 3600 < 0) := by
    simp only [HOUR_END] at ht ⊢; omega
  rw [if_neg hh] at hst
  split at hst
  · next q hi =>
    cases hst
    rw [hidx] at hi
    intro c hc
    have := fwdIndex_spec cs.fwd _ _ hi c hc
    rw [Int.toNat_of_nonneg (by omega)] at this
    omega
  · cases hst

theorem mem_drop_start_fwd {cs : ConnSet} (hidx : cs.fwdIdx = fwdIndex cs.fwd) {t : Int} (h0 : 0 ≤ t)
    (ht : t < (HOUR_END : Int) * 3600) {start : Nat} (hst : lookupPos (fwdLookup cs.fwd cs.fwdIdx (hourOf t)) = some start)
    {a : Conn} (ha : a ∈ cs.fwd) (hd : t ≤ a.dep) : a ∈ cs.fwd.drop start := by
  rw [← List.take_append_drop start cs.fwd] at ha
  rcases List.mem_append.mp ha with h1 | h1
  · have := before_start_early cs hidx t h0 start hst ht a h1
    omega
  · exact h1

@[reducible] def RIdxOK (all : List Conn) (idx : List Nat) : Prop :=
  ∀ (k q : Nat), 1 ≤ k → idx[k]? = some q → ∀ c ∈ all.take q, c.arr > ((k : Nat) : Int) * 3600

/-- invariant of the index loops: `acc` holds the positions of hours `hour+1 ..`, and the connections passed arrive
    after hour `hour` begins (when there is an hour left to give an entry to) -/
structure RJ (all done : List Conn) (hour : Nat) (acc : List Nat) : Prop where
  ent : ∀ (j q : Nat), acc[j]? = some q → ∀ c ∈ all.take q, c.arr > ((hour + 1 + j : Nat) : Int) * 3600
  late : hour = 0 ∨ ∀ c ∈ done, c.arr > ((hour : Nat) : Int) * 3600

theorem revInner_spec (all done : List Conn) (c : Conn) (rest : List Conn) (hall : all = done ++ c :: rest) :
    ∀ (hour : Nat) (acc : List Nat), RJ all done hour acc →
      RJ all (done ++ [c]) (revInner c.arr done.length hour acc).1 (revInner c.arr done.length hour acc).2
  | 0, _, h => ⟨h.ent, Or.inl rfl⟩
  | hh + 1, acc, h => by
    have hlate := h.late.resolve_left (Nat.succ_ne_zero hh)
    unfold revInner
    split
    · -- hour `hh + 1` gets the position of `c`: what precedes `c` arrives after that hour begins
      refine revInner_spec all done c rest hall hh _ ⟨fun j q hq d hd => ?_, Or.inr fun d hd => ?_⟩
      · cases j with
        | zero =>
          cases hq
          rw [hall, List.take_left' rfl] at hd
          have := hlate d hd
          omega
        | succ j =>
          have := h.ent j q hq d hd
          omega
      · have := hlate d hd
        omega
    · refine ⟨h.ent, Or.inr fun d hd => ?_⟩
      rcases List.mem_append.mp hd with h1 | h1
      · exact hlate d h1
      · cases List.mem_singleton.mp h1; omega

theorem revIndexLoop_spec (all : List Conn) : ∀ (cs done : List Conn) (hour : Nat) (acc : List Nat),
    all = done ++ cs → RJ all done hour acc →
    RJ all all (revIndexLoop cs hour done.length acc).1 (revIndexLoop cs hour done.length acc).2
  | [], done, hour, acc, hall, h => by rwa [hall, List.append_nil] at h ⊢
  | c :: rest, done, hour, acc, hall, h => by
    have hpos : (done ++ [c]).length = done.length + 1 := List.length_append
    unfold revIndexLoop
    rw [← hpos]
    exact revIndexLoop_spec all rest (done ++ [c]) _ _ (by rw [hall, List.append_assoc]; rfl)
      (revInner_spec all done c rest hall hour acc h)

theorem revIndex_spec (l : List Conn) : RIdxOK l (revIndex l) := by
  unfold revIndex
  have h := revIndexLoop_spec l l [] (HOUR_END - 1) [] rfl ⟨fun j q hq => (nomatch hq), Or.inr fun c hc => nomatch hc⟩
  rw [List.length_nil] at h
  generalize revIndexLoop l (HOUR_END - 1) 0 [] = r at h
  intro k q hk hq d hd
  by_cases hkh : k < r.1 + 1
  · -- an hour that got the end position: hour `r.1` is not 0 then, and everything arrives after it begins
    have := h.late.resolve_left (by omega) d (List.mem_of_mem_take hd)
    omega
  · rw [List.getElem?_append_right (by simp; omega), List.length_replicate] at hq
    have := h.ent (k - (r.1 + 1)) q hq d hd
    omega

theorem before_start_late (cs : ConnSet) (hidx : cs.revIdx = revIndex cs.rev) (t : Int) (h0 : 0 ≤ t) (start : Nat)
    (hst : lookupPos (revLookup cs.rev cs.revIdx (hourOf t + 1)) = some start) :
    ∀ c ∈ cs.rev.take start, c.arr > t := by
  unfold revLookup hourOf at hst
  rw [if_neg (by omega)] at hst
  by_cases hbig : t / 3600 + 1 > (HOUR_END : Int) - 1
  · -- beyond the last hour the scan starts at the first connection
    rw [if_pos hbig] at hst
    cases hst
    exact fun c hc => nomatch hc
  · rw [if_neg hbig] at hst
    cases hi : cs.revIdx[(t / 3600 + 1).toNat]? with
    | none => rw [hi] at hst; cases hst
    | some q =>
      rw [hi] at hst
      cases hst
      intro c hc
      have := revIndex_spec cs.rev _ _ (by omega) (hidx ▸ hi) c hc
      omega

theorem rev_start_exists (l : List Conn) (hour : Int) : ∃ start, lookupPos (revLookup l (revIndex l) hour) = some start := by
  have := (C18_index_safe l hour).2
  generalize revLookup l (revIndex l) hour = r at this ⊢
  cases r with
  | pos p => exact ⟨p, rfl⟩
  | outOfBounds => exact absurd rfl this

theorem mem_drop_start_rev (cs : ConnSet) (hidx : cs.revIdx = revIndex cs.rev) (t : Int) (h0 : 0 ≤ t) (start : Nat)
    (hst : lookupPos (revLookup cs.rev cs.revIdx (hourOf t + 1)) = some start) {a : Conn} (ha : a ∈ cs.rev)
    (hd : a.arr ≤ t) : a ∈ cs.rev.drop start := by
  rw [← List.take_append_drop start cs.rev] at ha
  refine (List.mem_append.mp ha).resolve_left fun h1 => ?_
  have := before_start_late cs hidx t h0 start hst a h1
  omega

end Tr
