/-
  TrVerif.Proofs.ForwardComplete — completeness of the forward scan: whatever a traveller leaving
  the place at the requested time can reach (`Reach`) within max_travel_time, the scan has
  reached no later; every boardable trip is entered; every possible alighting is recorded with an
  arrival no later.
-/
import TrVerif.Proofs.Forward
namespace Tr

/-- what the completeness proof assumes about the scanned list `L` and the query -/
structure FW (cx : Ctx) (L : List Conn) : Prop where
  posHop : ∀ c ∈ L, c.dep < c.arr
  depMono : ∀ a ∈ L, ∀ b ∈ L, a.trip = b.trip → a.seq ≤ b.seq → a.dep ≤ b.dep
  arrMono : ∀ a ∈ L, ∀ b ∈ L, a.trip = b.trip → a.seq ≤ b.seq → a.arr ≤ b.arr
  unique : ∀ a ∈ L, ∀ b ∈ L, a.trip = b.trip → a.seq = b.seq → a = b
  footNonneg : ∀ z, ∀ f ∈ cx.ds.footOf z, 0 ≤ f.time
  selfFoot : ∀ c ∈ L, ∃ f ∈ cx.ds.footOf c.arrStop, f.stop = c.arrStop ∧ f.time ≤ cx.p.maxTransfer
  mw : 0 ≤ cx.p.minWait
  accNonneg : ∀ a ∈ cx.accessFoot, 0 ≤ a.time
  accNodup : (cx.accessFoot.map (·.stop)).Nodup
  noCap : cx.p.maxFirstWait ≤ 0

theorem Reach.mono_set {cx : Ctx} {P P' : List Conn} (hp : ∀ a ∈ P, a ∈ P') {y : Nat} {t : Int} (h : Reach cx P y t) :
    Reach cx P' y t := by
  induction h with
  | access a ha => exact Reach.access a ha
  | ride y t e x f _ he hx h1 h2 h3 h4 h5 h6 h7 h8 h9 ih => exact Reach.ride y t e x f ih (hp e he) (hp x hx) h1 h2 h3 h4 h5 h6 h7 h8 h9

theorem FW.ride {cx : Ctx} {L : List Conn} (w : FW cx L) {e x : Conn} {f : NTD} (he : e ∈ L) (hx : x ∈ L)
    (ht : e.trip = x.trip) (hs : e.seq ≤ x.seq) (hf : f ∈ cx.ds.footOf x.arrStop) :
    0 ≤ e.effWait cx.p.minWait ∧ e.dep ≤ x.dep ∧ x.dep < x.arr ∧ 0 ≤ f.time :=
  ⟨effWait_nonneg e _ w.mw, w.depMono e he x hx ht hs, w.posHop x hx, w.footNonneg _ f hf⟩

theorem Reach.access_ne_nil {cx : Ctx} {C : List Conn} {y : Nat} {t : Int} (h : Reach cx C y t) : cx.accessFoot ≠ [] := by
  induction h with
  | access a ha => exact List.ne_nil_of_mem ha
  | ride _ _ _ _ _ _ _ _ _ _ _ _ _ _ _ _ _ ih => exact ih

theorem Reach.time_ge {cx : Ctx} {L P : List Conn} (w : FW cx L) (hP : ∀ a ∈ P, a ∈ L) {y : Nat} {t : Int}
    (h : Reach cx P y t) : cx.depT + cx.minAccess ≤ t := by
  induction h with
  | access a ha =>
    have := minTime_le cx.accessFoot a ha
    show cx.depT + minTime cx.accessFoot ≤ cx.depT + a.time
    omega
  | ride y t e x f _ he hx h1 h2 h3 h4 h5 h6 h7 h8 h9 ih =>
    have := w.ride (hP e he) (hP x hx) h3 h4 h8
    omega

/-- a journey that ends at `t` only uses connections that leave before `t` and not before `depT + minAccess` -/
theorem Reach.sub {cx : Ctx} {L P Q : List Conn} (w : FW cx L) (hP : ∀ a ∈ P, a ∈ L) {y : Nat} {t : Int}
    (h : Reach cx P y t) (hQ : ∀ a ∈ P, cx.depT + cx.minAccess ≤ a.dep → a.dep < t → a ∈ Q) : Reach cx Q y t := by
  induction h with
  | access a ha => exact Reach.access a ha
  | ride y t e x f hsub he hx h1 h2 h3 h4 h5 h6 h7 h8 h9 ih =>
    have := w.ride (hP e he) (hP x hx) h3 h4 h8
    have hge := hsub.time_ge w hP
    exact Reach.ride y t e x f (ih fun a ha hd hat => hQ a ha hd (by omega)) (hQ e he (by omega) (by omega))
      (hQ x hx (by omega) (by omega)) h1 h2 h3 h4 h5 h6 h7 h8 h9

theorem Reach.strengthen {cx : Ctx} {L P : List Conn} {c : Conn} (w : FW cx L) (hP : ∀ a ∈ P ++ [c], a ∈ L)
    {y : Nat} {t : Int} (h : Reach cx (P ++ [c]) y t) (ht : t ≤ c.dep) : Reach cx P y t :=
  h.sub w hP fun a ha _ hat => mem_of_mem_snoc_ne ha (by rintro rfl; omega)

def EgrLe (s : FState) (y : Nat) (b : Int) : Prop := ∃ js x, s.egr y = some js ∧ js.exit = some x ∧ x.arr ≤ b

structure Better (s s' : FState) : Prop where
  tent : ∀ y, s'.tent y ≤ s.tent y
  enter : ∀ T e, s.enterC T = some e → s'.enterC T = some e
  egr : ∀ y b, EgrLe s y b → EgrLe s' y b

theorem Better.refl (s : FState) : Better s s := ⟨fun _ => Int.le_refl _, fun _ _ h => h, fun _ _ h => h⟩

theorem Better.trans {a b c : FState} (h1 : Better a b) (h2 : Better b c) : Better a c :=
  ⟨fun y => Int.le_trans (h2.tent y) (h1.tent y), fun T e h => h2.enter T e (h1.enter T e h), fun y b h => h2.egr y b (h1.egr y b h)⟩

theorem Better.of_eq {s s' : FState} (h1 : s'.tent = s.tent) (h2 : s'.enterC = s.enterC) (h3 : s'.egr = s.egr) : Better s s' :=
  ⟨fun y => by rw [h1]; exact Int.le_refl _, fun T e h => by rw [h2]; exact h, fun y b ⟨js, x, h, hx⟩ => ⟨js, x, by rw [h3]; exact h, hx⟩⟩

theorem fwdFoot_better (cx : Ctx) (c : Conn) (s : FState) (f : NTD) : Better s (fwdFoot cx c s f) := by
  refine fwdFoot_ind cx c s f (Better.refl s) fun _ => ?_
  have hs1 : Better s (fwdFootTent c s f) :=
    ⟨fwdFootTent_le c s f, fun _ _ h => by unfold fwdFootTent; split <;> exact h,
     fun _ _ h => by unfold fwdFootTent; split <;> exact h⟩
  refine hs1.trans ?_
  unfold fwdFootEgr
  split
  · next h4 =>
    refine ⟨fun _ => Int.le_refl _, fun _ _ h => h, ?_⟩
    intro y b ⟨js, x, hj, hx, hb⟩
    by_cases hy : y = f.stop
    · -- the alighting it replaces arrives strictly later than `c`
      subst hy
      have hall := h4.2
      rw [hj] at hall
      simp only [Option.all_some, hx, Option.any_some, decide_eq_true_eq] at hall
      exact ⟨_, c, upd_same _ _ _, rfl, by omega⟩
    · exact ⟨js, x, (upd_other _ _ _ _ hy).trans hj, hx, hb⟩
  · exact Better.refl _

theorem fwdBoardS_better (s : FState) (c : Conn) : Better s (fwdBoardS s c) := by
  unfold fwdBoardS
  split
  · next h =>
    refine ⟨fun _ => Int.le_refl _, fun T e he => ?_, fun _ _ h => h⟩
    by_cases hT : T = c.trip
    · subst hT; rw [he] at h; simp at h
    · exact (upd_other _ _ _ _ hT).trans he
  · exact Better.refl s

theorem fwdAlightS_better (cx : Ctx) (single : Bool) (s : FState) (c : Conn) : Better s (fwdAlightS cx single s c) := by
  rw [fwdAlightS_eq]
  split
  · refine Better.trans (Better.of_eq ?_ ?_ ?_)
      (foldl_rel Better Better.refl Better.trans (fun s f _ => fwdFoot_better cx c s f) _) <;> rw [fwdMark_frame]
  · exact Better.refl s

theorem fwdStep_better (cx : Ctx) (single : Bool) (s : FState) (c : Conn) : Better s (fwdStep cx single s c) := by
  rcases fwdStep_cases cx single s c with h | h | ⟨_, _, h⟩
  · rw [h]; exact Better.refl s
  · rw [h]; exact Better.of_eq rfl rfl rfl
  · rw [h]
    exact ((fwdBoardS_better s c).trans (fwdAlightS_better cx single (fwdBoardS s c) c)).trans (Better.of_eq rfl rfl rfl)

def EgrWF (g : Nat → Option JStep) : Prop := ∀ y js, g y = some js → ∃ x, js.exit = some x

theorem fwdFoot_tent (cx : Ctx) (c : Conn) (s : FState) (f : NTD) (hf : f.time ≤ cx.p.maxTransfer) (hn : 0 ≤ f.time) :
    (fwdFoot cx c s f).tent f.stop ≤ c.arr + f.time := by
  rw [fwdFoot_eq]
  by_cases h1 : f.stop ≠ c.arrStop ∧ s.tent f.stop < c.arr
  · rw [if_pos h1]; omega
  · rw [if_neg h1, if_pos hf]
    have : (fwdFootTent c s f).tent f.stop ≤ c.arr + f.time := by
      unfold fwdFootTent
      split
      · simp only [upd_same]; omega
      · omega
    unfold fwdFootEgr
    split <;> exact this

theorem fwdFoot_egrWF (cx : Ctx) (c : Conn) (s : FState) (f : NTD) (hwf : EgrWF s.egr) : EgrWF (fwdFoot cx c s f).egr := by
  refine fwdFoot_ind (I := fun t => EgrWF t.egr) cx c s f hwf fun _ => ?_
  have hs1 : EgrWF (fwdFootTent c s f).egr := by unfold fwdFootTent; split <;> exact hwf
  unfold fwdFootEgr
  split
  · exact upd_all (P := fun _ (o : Option JStep) => ∀ js, o = some js → ∃ x, js.exit = some x) (fun js h => by cases h; exact ⟨c, rfl⟩) hs1
  · exact hs1

theorem fwdFoot_egr (cx : Ctx) (c : Conn) (s : FState) (f : NTD) (hf : f.time ≤ cx.p.maxTransfer) (hs : f.stop = c.arrStop)
    (hwf : EgrWF s.egr) : EgrLe (fwdFoot cx c s f) c.arrStop c.arr := by
  rw [fwdFoot_eq, if_neg (fun h => h.1 hs), if_pos hf]
  have hs1 : EgrWF (fwdFootTent c s f).egr := by unfold fwdFootTent; split <;> exact hwf
  unfold fwdFootEgr
  rw [← hs]
  split
  · exact ⟨_, c, upd_same _ _ _, rfl, Int.le_refl _⟩
  · -- not replaced: the alighting recorded there arrives no later
    next h4 =>
    cases he : (fwdFootTent c s f).egr f.stop with
    | none => rw [he] at h4; simp [hs] at h4
    | some js =>
      obtain ⟨x, hx⟩ := hs1 f.stop js he
      rw [he] at h4
      simp only [hs, true_and, Option.all_some, hx, Option.any_some, decide_eq_true_eq] at h4
      exact ⟨js, x, he, hx, by omega⟩

theorem fwdBoardS_isSome (s : FState) {c : Conn} (hcb : c.canBoard = true) : ((fwdBoardS s c).enterC c.trip).isSome = true := by
  unfold fwdBoardS
  split
  · exact congrArg Option.isSome (upd_same s.enterC c.trip (some c))
  · next hx => exact Classical.byContradiction fun hn => hx ⟨hcb, by simpa using hn⟩

theorem fwdBoardS_egr (s : FState) (c : Conn) : (fwdBoardS s c).egr = s.egr := by rw [fwdBoardS_frame]
theorem fwdBoardS_stop (s : FState) (c : Conn) : (fwdBoardS s c).stop = s.stop := by rw [fwdBoardS_frame]

section
variable {cx : Ctx} {single : Bool} {s : FState} {c : Conn} {f : NTD}

theorem fwdAlightS_tent (hcu : c.canUnboard = true) (hen : (s.enterC c.trip).isSome = true) (hf : f ∈ cx.ds.footOf c.arrStop)
    (hft : f.time ≤ cx.p.maxTransfer) (hn : 0 ≤ f.time) : (fwdAlightS cx single s c).tent f.stop ≤ c.arr + f.time := by
  rw [fwdAlightS_eq, if_pos ⟨hcu, hen⟩]
  exact foldl_of_mem (fun _ => True) (fun s => s.tent f.stop ≤ c.arr + f.time) (fun _ _ _ => trivial)
    (fun s _ => fwdFoot_tent cx c s f hft hn) (fun s g h => Int.le_trans ((fwdFoot_better cx c s g).tent _) h) _ _ hf trivial

theorem fwdAlightS_egr (hcu : c.canUnboard = true) (hen : (s.enterC c.trip).isSome = true) (hf : f ∈ cx.ds.footOf c.arrStop)
    (hft : f.time ≤ cx.p.maxTransfer) (hs : f.stop = c.arrStop) (hwf : EgrWF s.egr) :
    EgrLe (fwdAlightS cx single s c) c.arrStop c.arr := by
  rw [fwdAlightS_eq, if_pos ⟨hcu, hen⟩]
  exact foldl_of_mem (fun t => EgrWF t.egr) (fun t => EgrLe t c.arrStop c.arr) (fun s g => fwdFoot_egrWF cx c s g)
    (fun s h => fwdFoot_egr cx c s f hft hs h) (fun s g h => (fwdFoot_better cx c s g).egr _ _ h) _ _ hf
    (by rw [fwdMark_frame]; exact hwf)

theorem fwdAlightS_egrWF (hwf : EgrWF s.egr) : EgrWF (fwdAlightS cx single s c).egr := by
  rw [fwdAlightS_eq]
  split
  · refine foldl_inv (fun t => EgrWF t.egr) (fun t f _ => fwdFoot_egrWF cx c t f) ?_
    rw [fwdMark_frame]
    exact hwf
  · exact hwf

theorem fwdStep_main (h0 : s.stop = false) (h1 : c.dep ≥ cx.depT + cx.minAccess) (h2 : cx.disabled c.trip = false)
    (h3 : ¬ fwdBreakP cx single s c) (hcap : cx.p.maxFirstWait ≤ 0)
    (h4 : (s.enterC c.trip).isSome = true ∨ s.tent c.depStop ≤ c.dep - c.effWait cx.p.minWait) :
    fwdStep cx single s c =
      { fwdAlightS cx single (fwdBoardS s c) c with count := (fwdAlightS cx single (fwdBoardS s c) c).count + 1 } := by
  -- with the first-waiting cap off the `fromOrigin` test of the guard is void
  have hfo : decide (cx.p.maxFirstWait > 0) = false := by simp; omega
  rw [fwdStep_eq, if_neg (by rw [h0]; simp), if_neg (fun h => h h1), if_neg (by rw [h2]; simp), if_neg h3,
    if_neg (fun hh => hh ⟨h4, Or.inl (by rw [hfo]; simp)⟩)]

end

def BoardP (cx : Ctx) (P : List Conn) (e : Conn) : Prop :=
  e.canBoard = true ∧ cx.disabled e.trip = false ∧ ∃ t, Reach cx P e.depStop t ∧ t + e.effWait cx.p.minWait ≤ e.dep

structure FC (cx : Ctx) (P : List Conn) (s : FState) : Prop where
  tent : ∀ y t, Reach cx P y t → t ≤ cx.depT + cx.p.maxTotal → s.tent y ≤ t
  enter : ∀ e ∈ P, BoardP cx P e → e.dep ≤ cx.depT + cx.p.maxTotal → (s.enterC e.trip).isSome = true
  egr : ∀ e ∈ P, ∀ x ∈ P, BoardP cx P e → e.trip = x.trip → e.seq ≤ x.seq → x.canUnboard = true →
    x.arr ≤ cx.depT + cx.p.maxTotal → EgrLe s x.arrStop x.arr
  stop : s.stop = true → ∃ c0 ∈ P, c0.dep - cx.depT > cx.p.maxTotal
  egrWF : ∀ y js, s.egr y = some js → ∃ x, js.exit = some x

/-- what the invariants of the two variants of the scan share.  `β` is the cut line: nothing that leaves after it is
    claimed, and the scan has not stopped before it; `G` says which alightings are claimed (all-nodes: those that arrive
    by `β`; single: those that leave by `β`). -/
structure FCore (cx : Ctx) (β : Int) (G : Conn → Prop) (P : List Conn) (s : FState) : Prop where
  tent : ∀ y t, Reach cx P y t → t ≤ β → s.tent y ≤ t
  enter : ∀ e ∈ P, BoardP cx P e → e.dep ≤ β → (s.enterC e.trip).isSome = true
  egr : ∀ e ∈ P, ∀ x ∈ P, BoardP cx P e → e.trip = x.trip → e.seq ≤ x.seq → x.canUnboard = true → G x →
    EgrLe s x.arrStop x.arr
  stop : s.stop = true → ∃ c0 ∈ P, β < c0.dep
  egrWF : EgrWF s.egr

theorem FC_iff_core {cx : Ctx} {P : List Conn} {s : FState} :
    FC cx P s ↔ FCore cx (cx.depT + cx.p.maxTotal) (fun x => x.arr ≤ cx.depT + cx.p.maxTotal) P s := by
  -- the two differ in the side of the inequality `max_travel_time` stands on in the clause of the stop flag
  constructor <;> intro h <;>
  exact ⟨h.tent, h.enter, h.egr, fun hs => let ⟨c0, hc0, hl⟩ := h.stop hs; ⟨c0, hc0, by omega⟩, h.egrWF⟩

theorem BoardP.strengthen {cx : Ctx} {L P : List Conn} {c e : Conn} (w : FW cx L) (hP : ∀ a ∈ P ++ [c], a ∈ L)
    (h : BoardP cx (P ++ [c]) e) (he : e.dep ≤ c.dep) : BoardP cx P e := by
  obtain ⟨h1, h2, t, hr, ht⟩ := h
  have hw := effWait_nonneg e cx.p.minWait w.mw
  exact ⟨h1, h2, t, hr.strengthen w hP (by omega), ht⟩

theorem init_tent_le (cx : Ctx) (hnd : (cx.accessFoot.map (·.stop)).Nodup) {y : Nat} {t : Int} (h : Reach cx [] y t) :
    (FState.init cx).tent y ≤ t := by
  cases h with
  | access a ha =>
    exact Int.le_of_eq (foldl_upd_nodup (fun e => cx.depT + e.time) cx.accessFoot _ hnd a ha)
  | ride y t e x f _ he => cases he

theorem init_FC (cx : Ctx) (hnd : (cx.accessFoot.map (·.stop)).Nodup) : FC cx [] (FState.init cx) :=
  ⟨fun _ _ h _ => init_tent_le cx hnd h, fun _ he => (nomatch he), fun _ he => (nomatch he), fun h => (nomatch h),
   fun _ _ h => (nomatch h)⟩

section
variable {cx : Ctx} {single : Bool} {s : FState} {c : Conn} {L P : List Conn} {β : Int} {G : Conn → Prop}

theorem ride_before_fwd (w : FW cx L) (hP : ∀ a ∈ P ++ [c], a ∈ L) (hbefore : ∀ a ∈ P, fwdLt c a = false) {e x : Conn}
    (he : e ∈ P ++ [c]) (hx : x ∈ P ++ [c]) (ht : e.trip = x.trip) (hs : e.seq ≤ x.seq) (hxc : x ≠ c)
    (hb : BoardP cx (P ++ [c]) e) : e ∈ P ∧ x ∈ P ∧ BoardP cx P e := by
  have hxP := mem_of_mem_snoc_ne hx hxc
  have hxd := (fwdLt_false (hbefore x hxP)).1
  have hdm := w.depMono e (hP e he) x (hP x hx) ht hs
  refine ⟨?_, hxP, hb.strengthen w hP (by omega)⟩
  rcases List.mem_append.mp he with h' | h'
  · exact h'
  · -- `e = c`: then `x`, later in the trip and scanned earlier, is `c` itself
    rw [List.mem_singleton.mp h'] at ht hs hdm
    have := (fwdLt_false (hbefore x hxP)).2 hdm ht
    exact absurd (w.unique x (hP x hx) c (hP c (by simp)) ht.symm (by omega)) hxc

theorem fwdStep_ride (w : FW cx L) (hP : ∀ a ∈ P ++ [c], a ∈ L) (hbefore : ∀ a ∈ P, fwdLt c a = false)
    (hβ1 : β ≤ cx.depT + cx.p.maxTotal)
    (hβ2 : single = true → s.reached = true → cx.maxEgress ≥ 0 → s.tentEgrArr < MAX_INT → β ≤ s.tentEgrArr + cx.maxEgress)
    (h : FCore cx β G P s) {e : Conn} (he : e ∈ P ++ [c]) (hb : BoardP cx (P ++ [c]) e) (ht : e.trip = c.trip)
    (hs : e.seq ≤ c.seq) (hc : c.dep ≤ β) :
    fwdStep cx single s c =
        { fwdAlightS cx single (fwdBoardS s c) c with count := (fwdAlightS cx single (fwdBoardS s c) c).count + 1 } ∧
      ((fwdBoardS s c).enterC c.trip).isSome = true := by
  have hcL : c ∈ L := hP c (by simp)
  have hPL : ∀ a ∈ P, a ∈ L := fun a ha => hP a (List.mem_append_left _ ha)
  have hed : e.dep ≤ c.dep := w.depMono e (hP e he) c hcL ht hs
  obtain ⟨hcb, hdis, t, hr, hrt⟩ := hb.strengthen w hP hed
  have hge := hr.time_ge w hPL
  have hw := effWait_nonneg e cx.p.minWait w.mw
  have hns : s.stop = false := by
    cases hst : s.stop with
    | false => rfl
    | true =>
      obtain ⟨c0, hc0, hlate⟩ := h.stop hst
      have := (fwdLt_false (hbefore c0 hc0)).1
      omega
  have hmain := fwdStep_main (single := single) hns (by omega) (ht ▸ hdis) (by
    rintro (⟨h1, hr1, hr2, hr3, hr4⟩ | h3)
    · have := hβ2 h1 hr1 hr2 hr3
      omega
    · omega) w.noCap
  rcases List.mem_append.mp he with heP | heC
  · have hen : (s.enterC c.trip).isSome = true := ht ▸ h.enter e heP ⟨hcb, hdis, t, hr, hrt⟩ (by omega)
    obtain ⟨v, hv⟩ := Option.isSome_iff_exists.mp hen
    exact ⟨hmain (Or.inl hen), by rw [(fwdBoardS_better s c).enter _ _ hv]; rfl⟩
  · cases List.mem_singleton.mp heC
    have := h.tent _ _ hr (by omega)
    exact ⟨hmain (Or.inr (by omega)), fwdBoardS_isSome s hcb⟩

theorem fwdStep_FCore (w : FW cx L) (hP : ∀ a ∈ P ++ [c], a ∈ L) (hbefore : ∀ a ∈ P, fwdLt c a = false)
    (hG : ∀ x ∈ L, G x → x.dep ≤ β) (hβ1 : β ≤ cx.depT + cx.p.maxTotal)
    (hβ2 : single = true → s.reached = true → cx.maxEgress ≥ 0 → s.tentEgrArr < MAX_INT → β ≤ s.tentEgrArr + cx.maxEgress)
    (h : FCore cx β G P s) : FCore cx β G (P ++ [c]) (fwdStep cx single s c) := by
  have hcL : c ∈ L := hP c (by simp)
  have hbet := fwdStep_better cx single s c
  have hegrE : EgrWF (fwdBoardS s c).egr := by rw [fwdBoardS_egr]; exact h.egrWF
  refine ⟨?_, ?_, ?_, ?_, ?_⟩
  · intro y t hr ht
    cases hr with
    | access a ha => exact Int.le_trans (hbet.tent _) (h.tent _ _ (Reach.access a ha) ht)
    | ride y' t' e x f hsub he hx h1 h2 h3 h4 h5 h6 h7 h8 h9 =>
      have hb : BoardP cx (P ++ [c]) e := ⟨h5, h7, t', by rw [h1]; exact hsub, h2⟩
      by_cases hxc : x = c
      · subst hxc
        have hph := w.posHop x hcL
        have hfn := w.footNonneg _ f h8
        obtain ⟨hm, hen⟩ := fwdStep_ride w hP hbefore hβ1 hβ2 h he hb h3 h4 (by omega)
        rw [hm]
        exact fwdAlightS_tent h6 hen h8 h9 hfn
      · obtain ⟨heP, hxP, _, _, t'', hr'', h2''⟩ := ride_before_fwd w hP hbefore he hx h3 h4 hxc hb
        exact Int.le_trans (hbet.tent _)
          (h.tent _ _ (Reach.ride _ t'' e x f hr'' heP hxP rfl h2'' h3 h4 h5 h6 h7 h8 h9) ht)
  · intro e he hb hd
    rcases List.mem_append.mp he with heP | heC
    · have hbP := hb.strengthen w hP (fwdLt_false (hbefore e heP)).1
      obtain ⟨v, hen⟩ := Option.isSome_iff_exists.mp (h.enter e heP hbP hd)
      rw [hbet.enter _ _ hen]; rfl
    · rw [List.mem_singleton.mp heC] at he hb hd ⊢
      obtain ⟨hm, hen⟩ := fwdStep_ride w hP hbefore hβ1 hβ2 h he hb rfl (Nat.le_refl _) hd
      rw [hm]
      show ((fwdAlightS cx single (fwdBoardS s c) c).enterC c.trip).isSome = true
      rw [fwdAlightS_keeps (·.enterC) (fun _ _ _ _ _ _ => rfl)]
      exact hen
  · intro e he x hx hb ht hs hcu hg
    by_cases hxc : x = c
    · subst hxc
      obtain ⟨hm, hen⟩ := fwdStep_ride w hP hbefore hβ1 hβ2 h he hb ht hs (hG x hcL hg)
      obtain ⟨f0, hf0, hf0s, hf0t⟩ := w.selfFoot x hcL
      rw [hm]
      exact fwdAlightS_egr hcu hen hf0 hf0t hf0s hegrE
    · obtain ⟨heP, hxP, hbP⟩ := ride_before_fwd w hP hbefore he hx ht hs hxc hb
      exact hbet.egr _ _ (h.egr e heP x hxP hbP ht hs hcu hg)
  · intro hst
    rcases fwdStep_branch cx single s c with h1 | ⟨_, hbr, _⟩ | ⟨h0, _, _, _, h1⟩
    · rw [h1] at hst
      obtain ⟨c0, hc0, hl⟩ := h.stop hst
      exact ⟨c0, List.mem_append_left _ hc0, hl⟩
    · refine ⟨c, by simp, ?_⟩
      rcases hbr with ⟨hs1, hr1, hr2, hr3, hr4⟩ | hbr
      · have := hβ2 hs1 hr1 hr2 hr3
        omega
      · omega
    · rw [h1] at hst
      have hk : (fwdAlightS cx single (fwdBoardS s c) c).stop = false :=
        (fwdAlightS_keeps (·.stop) (fun _ _ _ _ _ _ => rfl) cx single _ c).trans ((fwdBoardS_stop s c).trans h0)
      exact absurd (hk.symm.trans hst) (by decide)
  · rcases fwdStep_branch cx single s c with h1 | ⟨_, _, h1⟩ | ⟨_, _, _, _, h1⟩
    · rw [h1]; exact h.egrWF
    · rw [h1]; exact h.egrWF
    · rw [h1]; exact fwdAlightS_egrWF hegrE

end

theorem fwdStep_FC {cx : Ctx} {L P : List Conn} {s : FState} {c : Conn} (w : FW cx L)
    (hP : ∀ a ∈ P ++ [c], a ∈ L) (hbefore : ∀ a ∈ P, fwdLt c a = false) (h : FC cx P s) :
    FC cx (P ++ [c]) (fwdStep cx false s c) :=
  FC_iff_core.2 (fwdStep_FCore w hP hbefore
    (fun x hx (hg : x.arr ≤ cx.depT + cx.p.maxTotal) => by have := w.posHop x hx; omega) (Int.le_refl _)
    (fun hf => nomatch hf) (FC_iff_core.1 h))

theorem fwdScanList_FC {cx : Ctx} {L : List Conn} (w : FW cx L) :
    ∀ (post pre : List Conn) (s : FState), (∀ a ∈ pre ++ post, a ∈ L) → SortedFwd (pre ++ post) →
      FC cx pre s → FC cx (pre ++ post) (post.foldl (fwdStep cx false) s) :=
  fun post pre s hC hs h =>
    foldl_prefix_inv (· ∈ L) (fun a c => fwdLt c a = false) (fun _ => True) (FC cx) (fun _ _ _ => trivial)
      (fun _ _ _ hM hR _ h => fwdStep_FC w hM hR h) post pre s hC hs trivial h

end Tr
