/-
  TrVerif.Proofs.FwdChain — the chain walk of the departure accessibility map
  (`forwardJourneyStepAllNodes`: follow `forwardJourneysSteps` back to the origin, counting legs)
  terminates: the tentative times of the stops it visits strictly decrease.

  Invariant `FCh` of the forward scan: the boarding kept for a trip left a stop no earlier than
  that stop's tentative time; the step stored for a stop alights no later than the stop's
  tentative time from a ride boarded strictly earlier, at a stop whose tentative time is no later
  than that boarding.  Tentative times only decrease, so all of this is stable.
-/
import TrVerif.Proofs.Forward
namespace Tr

structure FCh (cx : Ctx) (C : List Conn) (d : Int) (s : FState) : Prop where
  enter : ∀ T e, s.enterC T = some e → e ∈ C ∧ e.dep ≤ d ∧ s.tent e.depStop ≤ e.dep
  step : ∀ y e, (s.steps y).enter = some e → ∃ x, (s.steps y).exit = some x ∧ e ∈ C ∧ e.dep < x.arr ∧
    x.arr ≤ s.tent y ∧ s.tent e.depStop ≤ e.dep
  egr : ∀ y js e, s.egr y = some js → js.enter = some e → e ∈ C ∧ s.tent e.depStop ≤ e.dep

theorem init_FCh (cx : Ctx) (C : List Conn) (d : Int) : FCh cx C d (FState.init cx) := by
  refine ⟨fun T e he => by simp [FState.init] at he, ?_, fun y js e he => by simp [FState.init] at he⟩
  intro y e he
  have := foldl_upd_enter cx.accessFoot (fun _ => {}) (fun _ => rfl) y
  simp only [FState.init] at he
  rw [this] at he; cases he

structure FChainWF (cx : Ctx) (C : List Conn) : Prop where
  posHop : ∀ c ∈ C, c.dep < c.arr
  footNonneg : ∀ z, ∀ f ∈ cx.ds.footOf z, 0 ≤ f.time
  mw : 0 ≤ cx.p.minWait

theorem fwdFoot_FCh {cx : Ctx} {C : List Conn} (w : FChainWF cx C) {s : FState} {c : Conn} {f : NTD} (hc : c ∈ C)
    (hf : f ∈ cx.ds.footOf c.arrStop) (h : FCh cx C c.dep s) : FCh cx C c.dep (fwdFoot cx c s f) := by
  have hfn := w.footNonneg _ f hf
  have hpos := w.posHop c hc
  have hjs : ∀ e, s.enterC c.trip = some e → e ∈ C ∧ e.dep < c.arr ∧ s.tent e.depStop ≤ e.dep := fun e he =>
    let ⟨a, b, d⟩ := h.enter _ e he
    ⟨a, by omega, d⟩
  refine fwdFoot_ind cx c s f h fun _ => ?_
  have hle := fwdFootTent_le c s f
  have hS1 : FCh cx C c.dep (fwdFootTent c s f) := by
    unfold fwdFootTent at hle ⊢
    by_cases h3 : f.time + c.arr < s.tent f.stop
    · rw [if_pos h3] at hle ⊢
      refine ⟨fun T e he => ?_, fun y e he => ?_, fun y js e hy he => ?_⟩
      · obtain ⟨a, b, d⟩ := h.enter T e he
        exact ⟨a, b, Int.le_trans (hle _) d⟩
      · by_cases hy : y = f.stop
        · subst hy
          simp only [upd_same] at he ⊢
          obtain ⟨a, b, d⟩ := hjs e he
          exact ⟨c, rfl, a, b, by omega, Int.le_trans (hle _) d⟩
        · simp only [upd_other _ _ _ _ hy] at he ⊢
          obtain ⟨x, a, b, c', d, g⟩ := h.step y e he
          exact ⟨x, a, b, c', d, Int.le_trans (hle _) g⟩
      · obtain ⟨a, b⟩ := h.egr y js e hy he
        exact ⟨a, Int.le_trans (hle _) b⟩
    · rw [if_neg h3]; exact h
  unfold fwdFootEgr
  split
  · refine ⟨hS1.enter, hS1.step, fun y js e hy he => ?_⟩
    by_cases hyf : y = f.stop
    · subst hyf
      simp only [upd_same, Option.some.injEq] at hy
      subst hy
      obtain ⟨a, _, d⟩ := hjs e he
      exact ⟨a, Int.le_trans (hle _) d⟩
    · exact hS1.egr y js e (by simpa only [upd_other _ _ _ _ hyf] using hy) he
  · exact hS1

theorem fwdStep_FCh {cx : Ctx} {C : List Conn} (w : FChainWF cx C) {s : FState} {c : Conn} (single : Bool) (hc : c ∈ C)
    {d : Int} (hd : d ≤ c.dep) (h : FCh cx C d s) : FCh cx C c.dep (fwdStep cx single s c) := by
  have hm : FCh cx C c.dep s := ⟨fun T e he => let ⟨a, b, g⟩ := h.enter T e he; ⟨a, by omega, g⟩, h.step, h.egr⟩
  rcases fwdStep_cases cx single s c with h1 | h1 | ⟨hdis, hcond, h1⟩
  · rw [h1]; exact hm
  · rw [h1]; exact ⟨hm.enter, hm.step, hm.egr⟩
  · rw [h1]
    have hE : FCh cx C c.dep (fwdBoardS s c) := by
      refine ⟨fun T e he => ?_, by rw [fwdBoardS_frame]; exact hm.step, by rw [fwdBoardS_frame]; exact hm.egr⟩
      rw [fwdBoardS_frame]
      rcases fwdBoardS_enterC he with he | ⟨rfl, rfl, hcb, hn⟩
      · exact hm.enter T e he
      · -- no boarding was kept for the trip, so the stop was reached in time
        have hc1 := hcond.resolve_left (by rw [hn]; simp)
        have hw := effWait_nonneg e cx.p.minWait w.mw
        exact ⟨hc, Int.le_refl _, by show s.tent e.depStop ≤ e.dep; omega⟩
    have hA : FCh cx C c.dep (fwdAlightS cx single (fwdBoardS s c) c) := by
      rw [fwdAlightS_eq]
      split
      · refine foldl_inv (FCh cx C c.dep) (fun t f hf ht => fwdFoot_FCh w hc hf ht) ?_
        rw [fwdMark_frame]
        exact ⟨hE.enter, hE.step, hE.egr⟩
      · exact hE
    exact ⟨hA.enter, hA.step, hA.egr⟩

theorem fwdScanList_FCh {cx : Ctx} {C : List Conn} (w : FChainWF cx C) (single : Bool) :
    ∀ (post : List Conn) (s : FState) (d : Int), (∀ a ∈ post, a ∈ C) → SortedFwd post → (∀ a ∈ post, d ≤ a.dep) →
      FCh cx C d s → ∃ d', FCh cx C d' (post.foldl (fwdStep cx single) s) := by
  intro post
  induction post with
  | nil => intro s d _ _ _ h; exact ⟨d, h⟩
  | cons c rest ih =>
    intro s d hC hs hd h
    rw [List.foldl_cons]
    have hp := List.pairwise_cons.mp hs
    apply ih _ c.dep (fun a ha => hC a (List.mem_cons_of_mem _ ha)) hp.2
    · exact fun a ha => (fwdLt_false (hp.1 a ha)).1
    · exact fwdStep_FCh w single (hC c (List.mem_cons_self ..)) (hd c (List.mem_cons_self ..)) h

def below (tent : Nat → Int) (n : Nat) (y : Nat) : Nat := (List.range n).countP (fun z => decide (tent z < tent y))

theorem below_le (tent : Nat → Int) (n y : Nat) : below tent n y ≤ n := by
  unfold below
  have := List.countP_le_length (p := fun z => decide (tent z < tent y)) (l := List.range n)
  simpa using this

theorem below_lt {tent : Nat → Int} {n y y' : Nat} (hy : y' < n) (hl : tent y' < tent y) : below tent n y' < below tent n y := by
  unfold below
  apply countP_lt_of
  · intro z _ hz
    simp only [decide_eq_true_eq] at hz ⊢
    omega
  · exact ⟨y', List.mem_range.mpr hy, by simpa using hl, by simp⟩

theorem fwdChain_terminates {cx : Ctx} {C : List Conn} {d : Int} {s : FState} (h : FCh cx C d s)
    (hr : ∀ c ∈ C, c.depStop < cx.ds.nStops) :
    ∀ (fuel : Nat) (y : Nat) (n : Int), below s.tent cx.ds.nStops y < fuel →
      ∃ r, fwdChain cx.ds s.steps fuel (s.steps y) n = some r := by
  intro fuel
  induction fuel with
  | zero => intro y n hlt; omega
  | succ fuel ih =>
    intro y n hlt
    rw [fwdChain]
    cases he : (s.steps y).enter with
    | none => exact ⟨n, rfl⟩
    | some e =>
      cases hx : (s.steps y).exit with
      | none => exact ⟨n, rfl⟩
      | some x =>
        simp only
        obtain ⟨x', hx', heC, h1, h2, h3⟩ := h.step y e he
        rw [hx] at hx'; cases hx'
        apply ih
        have := below_lt (tent := s.tent) (n := cx.ds.nStops) (y := y) (y' := e.depStop) (hr e heC) (by omega)
        omega

theorem forwardNode_no_exception {cx : Ctx} {C : List Conn} {d : Int} {s : FState} (h : FCh cx C d s)
    (hr : ∀ c ∈ C, c.depStop < cx.ds.nStops) (node : Nat) (what : String) :
    forwardNode cx s node ≠ .exception what := by
  unfold forwardNode
  cases hegr : s.egr node with
  | none => simp
  | some first =>
    simp only
    have hterm : ∃ r, fwdChain cx.ds s.steps (cx.ds.nStops + 2) first (-1) = some r := by
      show ∃ r, fwdChain cx.ds s.steps ((cx.ds.nStops + 1) + 1) first (-1) = some r
      rw [fwdChain]
      cases he : first.enter with
      | none => exact ⟨_, rfl⟩
      | some e =>
        cases hx : first.exit with
        | none => exact ⟨_, rfl⟩
        | some x =>
          simp only
          apply fwdChain_terminates h hr
          exact Nat.lt_succ_of_le (below_le _ _ _)
    obtain ⟨r, hr'⟩ := hterm
    rw [hr']
    simp only
    split
    · split <;> simp
    · simp

end Tr
