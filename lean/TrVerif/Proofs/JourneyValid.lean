/-
  TrVerif.Proofs.JourneyValid — validity of a journey (list of legs with the walk that follows
  each leg), and: journey reconstruction from the tables of the reverse scan yields a valid
  journey (`reverse_journey.cpp:42-72`).
-/
import TrVerif.Proofs.Reverse
import TrVerif.Proofs.Emit
namespace Tr

def Ride (C : List Conn) (e x : Conn) : Prop :=
  e ∈ C ∧ x ∈ C ∧ e.trip = x.trip ∧ e.seq ≤ x.seq ∧ e.canBoard = true ∧ x.canUnboard = true

theorem Ride.enter_mem {C : List Conn} {e x : Conn} (h : Ride C e x) : e ∈ C := h.1
theorem Ride.exit_mem {C : List Conn} {e x : Conn} (h : Ride C e x) : x ∈ C := h.2.1
theorem Ride.trip_eq {C : List Conn} {e x : Conn} (h : Ride C e x) : e.trip = x.trip := h.2.2.1
theorem Ride.seq_le {C : List Conn} {e x : Conn} (h : Ride C e x) : e.seq ≤ x.seq := h.2.2.2.1
theorem Ride.canBoard {C : List Conn} {e x : Conn} (h : Ride C e x) : e.canBoard = true := h.2.2.2.2.1
theorem Ride.canUnboard {C : List Conn} {e x : Conn} (h : Ride C e x) : x.canUnboard = true := h.2.2.2.2.2

/-- after alighting from `x`, walking `(w, d)` reaches the stop of `e'` in time to board it -/
def Link (cx : Ctx) (x : Conn) (w : Int) (e' : Conn) : Prop :=
  (∃ d, (⟨x.arrStop, w, d⟩ : NTD) ∈ cx.ds.rfootOf e'.depStop) ∧ w ≤ cx.p.maxTransfer ∧
  x.arr + w + e'.effWait cx.p.minWait ≤ e'.dep

/-- every leg is a ride and consecutive legs are linked by the walk stored with the earlier leg -/
def LegsOK (cx : Ctx) (C : List Conn) : List JStep → Prop
  | [] => True
  | [l] => ∃ e x, l.enter = some e ∧ l.exit = some x ∧ Ride C e x
  | l :: l' :: rest =>
    (∃ e x e', l.enter = some e ∧ l.exit = some x ∧ Ride C e x ∧ l'.enter = some e' ∧ Link cx x l.walk e') ∧
    LegsOK cx C (l' :: rest)

theorem RideFact.ride {pre : List Conn} {s : RState} {e x : Conn} (h : RideFact pre s e x) : Ride pre e x :=
  ⟨h.1, h.2.1, h.2.2.1, h.2.2.2.1, h.2.2.2.2.1, h.2.2.2.2.2.1⟩

theorem RideFact.arr_le {pre : List Conn} {s : RState} {e x : Conn} (h : RideFact pre s e x) : x.arr ≤ s.lab x.arrStop :=
  h.2.2.2.2.2.2

def IsRide (C : List Conn) (l : JStep) : Prop := ∃ e x, l.enter = some e ∧ l.exit = some x ∧ Ride C e x

def LinkOK (cx : Ctx) (l l' : JStep) : Prop :=
  ∃ x e', l.exit = some x ∧ l'.enter = some e' ∧ Link cx x l.walk e'

theorem LegsOK_cons2 {cx : Ctx} {C : List Conn} {l l' : JStep} {rest : List JStep} :
    LegsOK cx C (l :: l' :: rest) ↔ IsRide C l ∧ LinkOK cx l l' ∧ LegsOK cx C (l' :: rest) := by
  constructor
  · rintro ⟨⟨e, x, e', he, hx, hr, he', hl⟩, hrest⟩
    exact ⟨⟨e, x, he, hx, hr⟩, ⟨x, e', hx, he', hl⟩, hrest⟩
  · rintro ⟨⟨e, x, he, hx, hr⟩, ⟨x', e', hx', he', hl⟩, hrest⟩
    rw [hx] at hx'; cases hx'
    exact ⟨⟨e, x, e', he, hx, hr, he', hl⟩, hrest⟩

theorem LegsOK_single {cx : Ctx} {C : List Conn} {l : JStep} : LegsOK cx C [l] ↔ IsRide C l := Iff.rfl

theorem LegsOK.head {cx : Ctx} {C : List Conn} {l : JStep} {rest : List JStep} (h : LegsOK cx C (l :: rest)) : IsRide C l := by
  cases rest with
  | nil => exact h
  | cons a b => exact (LegsOK_cons2.mp h).1

theorem LegsOK.tail {cx : Ctx} {C : List Conn} {l : JStep} {rest : List JStep} (h : LegsOK cx C (l :: rest)) : LegsOK cx C rest := by
  cases rest with
  | nil => trivial
  | cons a b => exact (LegsOK_cons2.mp h).2.2

theorem LegsOK.isRide {cx : Ctx} {C : List Conn} : ∀ {legs : List JStep}, LegsOK cx C legs → ∀ l ∈ legs, IsRide C l := by
  intro legs
  induction legs with
  | nil => intro _ l hl; cases hl
  | cons a rest ih =>
    intro h l hl
    rcases List.mem_cons.mp hl with rfl | h'
    · exact h.head
    · exact ih h.tail l h'

theorem LegsOK.allLegs {cx : Ctx} {C : List Conn} {legs : List JStep} (h : LegsOK cx C legs) : AllLegs legs :=
  fun l hl => let ⟨e, x, he, hx, _⟩ := h.isRide l hl; ⟨e, x, he, hx⟩

theorem LegsOK.mem_enter {cx : Ctx} {C : List Conn} {legs : List JStep} (h : LegsOK cx C legs) :
    ∀ l ∈ legs, ∀ e, l.enter = some e → e ∈ C := by
  intro l hl e he
  obtain ⟨e', _, he', _, hr⟩ := h.isRide l hl
  rw [he] at he'; cases he'
  exact hr.enter_mem

theorem LegsOK_append {cx : Ctx} {C : List Conn} {P Q : List JStep} :
    LegsOK cx C (P ++ Q) ↔ LegsOK cx C P ∧ LegsOK cx C Q ∧
      ∀ l, P.getLast? = some l → ∀ l', Q.head? = some l' → LinkOK cx l l' := by
  induction P with
  | nil => simp [LegsOK]
  | cons a rest ih =>
    cases rest with
    | nil =>
      cases Q with
      | nil => simp [LegsOK]
      | cons q Q' =>
        rw [List.singleton_append, LegsOK_cons2, LegsOK_single]
        simp
        exact fun _ => and_comm
    | cons b r =>
      show LegsOK cx C (a :: b :: (r ++ Q)) ↔ _
      rw [LegsOK_cons2, LegsOK_cons2, ← List.cons_append, ih, List.getLast?_cons_cons]
      simp only [and_assoc]

theorem LegsOK_append_left {cx : Ctx} {C : List Conn} {P Q : List JStep} (h : LegsOK cx C (P ++ Q)) : LegsOK cx C P :=
  (LegsOK_append.mp h).1

theorem LegsOK_append_right {cx : Ctx} {C : List Conn} {P Q : List JStep} (h : LegsOK cx C (P ++ Q)) : LegsOK cx C Q :=
  (LegsOK_append.mp h).2.1

theorem LegsOK_glue {cx : Ctx} {C : List Conn} {P : List JStep} {l l' : JStep} {Q : List JStep}
    (hP : LegsOK cx C (P ++ [l])) (hQ : LegsOK cx C (l' :: Q)) (hl : LinkOK cx l l') : LegsOK cx C (P ++ [l] ++ l' :: Q) :=
  LegsOK_append.mpr ⟨hP, hQ, fun a ha b hb => by
    rw [List.getLast?_concat] at ha
    cases ha; cases hb; exact hl⟩

theorem LegsOK_junction {cx : Ctx} {C : List Conn} : ∀ {P : List JStep} {l l' : JStep} {Q : List JStep},
    LegsOK cx C (P ++ l :: l' :: Q) → LinkOK cx l l' := by
  intro P l l' Q h
  exact (LegsOK_cons2.mp (LegsOK_append_right h)).2.1

theorem LegsOK_replace_last {cx : Ctx} {C : List Conn} {A : List JStep} {F F' : JStep}
    (h : LegsOK cx C (A ++ [F])) (he : F'.enter = F.enter) (hr : IsRide C F') : LegsOK cx C (A ++ [F']) := by
  obtain ⟨hA, _, hl⟩ := LegsOK_append.mp h
  refine LegsOK_append.mpr ⟨hA, hr, fun a ha b hb => ?_⟩
  cases hb
  obtain ⟨x, e', hx, he', hlink⟩ := hl a ha F rfl
  exact ⟨x, e', hx, he.trans he', hlink⟩

theorem LegsOK_replace_head {cx : Ctx} {C : List Conn} {T T' : JStep} {B : List JStep}
    (h : LegsOK cx C (T :: B)) (hx : T'.exit = T.exit) (hw : T'.walk = T.walk) (hr : IsRide C T') :
    LegsOK cx C (T' :: B) := by
  cases B with
  | nil => exact hr
  | cons b r2 =>
    have h' := LegsOK_cons2.mp h
    obtain ⟨x, e', hx', he', hl⟩ := h'.2.1
    exact LegsOK_cons2.mpr ⟨hr, ⟨x, e', by rw [hx]; exact hx', he', by rw [hw]; exact hl⟩, h'.2.2⟩

theorem LegsOK_ends {cx : Ctx} {C : List Conn} {A M B : List JStep} {F T : JStep}
    (h : LegsOK cx C (A ++ F :: (M ++ T :: B))) : LegsOK cx C (A ++ [F]) ∧ LegsOK cx C (T :: B) :=
  ⟨LegsOK_append_left (Q := M ++ T :: B) (by simpa using h), LegsOK_append_right (P := A ++ F :: M) (by simpa using h)⟩

theorem LegsOK_snoc {cx : Ctx} {C : List Conn} {a : List JStep} {l cur : JStep} {x e' x' : Conn} (w d : Int)
    (h : LegsOK cx C (a ++ [l])) (hx : l.exit = some x) (he' : cur.enter = some e') (hx' : cur.exit = some x')
    (hr' : Ride C e' x') (hl : Link cx x w e') : LegsOK cx C (a ++ [{ l with walk := w, dist := d }] ++ [cur]) :=
  LegsOK_glue (LegsOK_replace_last h rfl (h.isRide l (by simp))) ⟨e', x', he', hx', hr'⟩ ⟨x, e', hx, he', hl⟩

def RecInv (cx : Ctx) (pre : List Conn) (s : RState) (acc : List JStep) (cur : JStep) (last : Option Nat) : Prop :=
  LegsOK cx pre acc ∧
  (match acc.getLast? with
   | none => last = none
   | some l => ∃ e x, l.enter = some e ∧ l.exit = some x ∧ x.arr ≤ s.lab x.arrStop ∧
       last = some x.arrStop ∧ cur = s.steps x.arrStop) ∧
  (∀ e, cur.enter = some e → ∃ x, cur.exit = some x ∧ RideFact pre s e x) ∧
  (acc ≠ [] → ∀ e, cur.enter = some e → ∃ y, last = some y ∧ StepFact cx pre s y cur e)

/-- result of the reconstruction: valid legs ending at a stop that still has its initial values -/
structure RecResult (cx : Ctx) (pre : List Conn) (s : RState) (legs : List JStep) (last : Option Nat) : Prop where
  ok : LegsOK cx pre legs
  ne : legs ≠ []
  fin : ∃ l e x, legs.getLast? = some l ∧ l.enter = some e ∧ l.exit = some x ∧ last = some x.arrStop ∧
      x.arr ≤ (RState.init cx).lab x.arrStop ∧ (s.steps x.arrStop).enter = none ∧
      s.steps x.arrStop = (RState.init cx).steps x.arrStop

theorem hasConns_iff (j : JStep) : j.hasConns = true ↔ (∃ e x, j.enter = some e ∧ j.exit = some x) := by
  unfold JStep.hasConns
  cases j.enter <;> cases j.exit <;> simp

/-- induction over the reconstruction loop: `P cur acc last` holds of the loop's variables, `Q` of its result.  One
    round appends `cur` - as the first leg, or after a leg `l` that then receives the walk stored with `cur`. -/
theorem reconLoop_induction (steps : Nat → JStep) {P : JStep → List JStep → Option Nat → Prop}
    {Q : List JStep → Option Nat → Prop}
    (stop : ∀ cur acc last, P cur acc last → cur.hasConns = false → Q acc last)
    (first : ∀ cur last e x, P cur [] last → cur.enter = some e → cur.exit = some x →
      P (steps x.arrStop) [cur] (some x.arrStop))
    (next : ∀ cur a l last e x, P cur (a ++ [l]) last → cur.enter = some e → cur.exit = some x →
      P (steps x.arrStop) (a ++ [{ l with walk := cur.walk, dist := cur.dist }] ++ [cur]) (some x.arrStop)) :
    ∀ (fuel : Nat) (cur : JStep) (acc : List JStep) (last : Option Nat) (legs : List JStep) (ls : Option Nat),
      P cur acc last → reconLoop steps fuel cur acc last = some (legs, ls) → Q legs ls := by
  intro fuel
  induction fuel with
  | zero =>
    intro cur acc last legs ls hP hr
    simp only [reconLoop] at hr
    split at hr
    · cases hr
    · cases hr; exact stop cur _ _ hP (by simpa using ‹¬ cur.hasConns = true›)
  | succ fuel ih =>
    intro cur acc last legs ls hP hr
    simp only [reconLoop] at hr
    split at hr
    · obtain ⟨e, x, he, hx⟩ := (hasConns_iff cur).mp ‹_›
      simp only [hx] at hr
      refine ih _ _ _ _ _ ?_ hr
      rcases eq_nil_or_snoc acc with rfl | ⟨a, l, rfl⟩
      · exact first cur last e x hP he hx
      · simpa using next cur a l last e x hP he hx
    · cases hr; exact stop cur _ _ hP (by simpa using ‹¬ cur.hasConns = true›)

theorem reconLoop_valid {cx : Ctx} {pre : List Conn} {s : RState} (hI : RInv cx pre s) :
    ∀ (fuel : Nat) (cur : JStep) (acc : List JStep) (last : Option Nat) (legs : List JStep) (lastStop : Option Nat),
      RecInv cx pre s acc cur last → (acc = [] → cur.hasConns = true) →
      reconLoop s.steps fuel cur acc last = some (legs, lastStop) → RecResult cx pre s legs lastStop := by
  intro fuel cur acc last legs lastStop hinv hne
  refine reconLoop_induction s.steps (P := fun cur acc last => RecInv cx pre s acc cur last ∧ (acc = [] → cur.hasConns = true))
    (Q := RecResult cx pre s) ?_ ?_ ?_ fuel cur acc last legs lastStop ⟨hinv, hne⟩
  · -- the loop stops at a step without connections: the stop where the last leg is left has its initial values
    intro cur acc last ⟨⟨h1, h2, h3, _⟩, hne⟩ hnc
    have hacc : acc ≠ [] := fun h => by rw [hne h] at hnc; cases hnc
    obtain ⟨a, l, rfl⟩ := (eq_nil_or_snoc acc).resolve_left hacc
    simp only [List.getLast?_concat] at h2
    obtain ⟨e, x, he, hx, hle, hlast, hcur⟩ := h2
    have hen : cur.enter = none := by
      cases hce : cur.enter with
      | none => rfl
      | some e' =>
        obtain ⟨x', hx', _⟩ := h3 e' hce
        rw [(hasConns_iff cur).mpr ⟨e', x', hce, hx'⟩] at hnc; cases hnc
    rw [hcur] at hen
    obtain ⟨i1, i2⟩ := hI.init _ hen
    exact ⟨h1, hacc, l, e, x, List.getLast?_concat, he, hx, hlast, by rw [← i2]; exact hle, hen, i1⟩
  · intro cur last e x ⟨⟨_, _, h3, _⟩, _⟩ he hx
    obtain ⟨x', hx', hride⟩ := h3 e he
    rw [hx] at hx'; cases hx'
    exact ⟨⟨⟨e, x, he, hx, hride.ride⟩, ⟨e, x, he, hx, hride.arr_le, rfl, rfl⟩,
      fun e2 he2 => let ⟨x2, a, b, _⟩ := hI.step _ _ he2; ⟨x2, a, b⟩,
      fun _ e2 he2 => ⟨_, rfl, hI.step _ _ he2⟩⟩, by simp⟩
  · intro cur a l last e x ⟨⟨h1, h2, h3, h4⟩, _⟩ he hx
    obtain ⟨x', hx', hride⟩ := h3 e he
    rw [hx] at hx'; cases hx'
    simp only [List.getLast?_concat] at h2
    obtain ⟨e0, x0, he0, hx0, hle0, hlast0, hcur0⟩ := h2
    obtain ⟨y, hy, x1, hx1, _, hfoot, hmax, hlab⟩ := h4 (by simp) e he
    rw [hlast0] at hy; cases hy
    have hlink : Link cx x0 cur.walk e := ⟨⟨_, hfoot⟩, hmax, by omega⟩
    refine ⟨⟨LegsOK_snoc cur.walk cur.dist h1 hx0 he hx hride.ride hlink, ?_,
      fun e2 he2 => let ⟨x2, a, b, _⟩ := hI.step _ _ he2; ⟨x2, a, b⟩,
      fun _ e2 he2 => ⟨_, rfl, hI.step _ _ he2⟩⟩, by simp⟩
    simp only [List.getLast?_concat]
    exact ⟨e, x, he, hx, hride.arr_le, rfl, rfl⟩

end Tr
