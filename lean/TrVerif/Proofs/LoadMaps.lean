/-
  Proofs/LoadMaps — `std::map` and list lemmas of the loader proofs: inserting a key larger than all
  present ones appends; look-ups in the tables that `encode` produces (`expFrom`) and in its lists of
  per-record files; grouping a list by a key permutes it.
-/
import TrVerif.Proofs.LoadSpec
namespace Tr.Load

theorem K_inj {k a b : Nat} : K k a = K k b ↔ a = b := by unfold K; omega
theorem K_lt {k a b : Nat} : K k a < K k b ↔ a < b := by unfold K; omega

theorem Map.emplace_last {α} : ∀ (m : Map α) (k : Nat) (v : α), (∀ p ∈ m, p.1 < k) → m.emplace k v = m ++ [(k, v)]
  | [], _, _, _ => rfl
  | (k', v') :: m, k, v, h => by
    have hk : k' < k := h (k', v') List.mem_cons_self
    rw [Map.emplace, if_neg (by omega), if_neg (by omega), Map.emplace_last m k v fun p hp => h p (List.mem_cons_of_mem _ hp)]
    rfl

theorem Map.set_last {α} : ∀ (m : Map α) (k : Nat) (v : α), (∀ p ∈ m, p.1 < k) → m.set k v = m ++ [(k, v)]
  | [], _, _, _ => rfl
  | (k', v') :: m, k, v, h => by
    have hk : k' < k := h (k', v') List.mem_cons_self
    rw [Map.set, if_neg (by omega), if_neg (by omega), Map.set_last m k v fun p hp => h p (List.mem_cons_of_mem _ hp)]
    rfl

theorem Map.mem_emplace {α} (m : Map α) (k : Nat) (v : α) (p : Nat × α) (h : p ∈ m.emplace k v) : p ∈ m ∨ p = (k, v) := by
  fun_induction Map.emplace m k v
  case case1 => exact Or.inr (List.mem_singleton.1 h)
  case case2 => exact (List.mem_cons.1 h).symm
  case case3 => exact Or.inl h
  case case4 ih =>
    rcases List.mem_cons.1 h with h | h
    · exact Or.inl (h ▸ List.mem_cons_self)
    · exact (ih h).imp_left (List.mem_cons_of_mem _)

theorem Map.lookup_none_of_lt {α} (m : Map α) (k : Nat) (h : ∀ p ∈ m, p.1 < k) : m.lookup k = none :=
  List.lookup_eq_none_iff.2 fun p hp => by have := h p hp; simp; omega

theorem Map.lt_append_last {α} (m : Map α) (k i : Nat) (v : α) (h : ∀ p ∈ m, p.1 < K k i) :
    ∀ p ∈ m ++ [(K k i, v)], p.1 < K k (i+1) :=
  List.forall_mem_append.2 ⟨fun p hp => Nat.lt_trans (h p hp) (K_lt.2 (Nat.lt_succ_self i)),
    List.forall_mem_singleton.2 (K_lt.2 (Nat.lt_succ_self i))⟩

theorem expFrom_lookup {α β} (k : Nat) (g : Nat → β → α) : ∀ (l : List β) (i j : Nat),
    (expFrom k g i l).lookup (K k j) = if i ≤ j then (l[j - i]?).map (g j) else none := by
  intro l
  induction l with
  | nil => intro i j; simp [expFrom]
  | cons x xs ih =>
    intro i j
    rw [expFrom, List.lookup_cons]
    by_cases hji : j = i
    · subst hji; simp
    · have hne : (K k j == K k i) = false := by simp [K_inj, hji]
      rw [hne, ih]
      by_cases hle : i ≤ j
      · have h1 : i + 1 ≤ j := by omega
        rw [if_pos hle, if_pos h1]
        have : j - i = (j - (i+1)) + 1 := by omega
        rw [this, List.getElem?_cons_succ]
      · rw [if_neg hle, if_neg (by omega)]

theorem filesFrom_lookup {α} (k : Nat) (F : Nat → Nat → List (Nat × α)) (e : Nat → α)
    (h0 : ∀ j, F j 0 = []) (hs : ∀ j n, F j (n+1) = (K k j, e j) :: F (j+1) n) :
    ∀ (n j i : Nat), lookupFile (F j n) (K k i) = if j ≤ i ∧ i < j + n then some (e i) else none
  | 0, j, i => by rw [h0, if_neg (by omega)]; rfl
  | n+1, j, i => by
    rw [hs, lookupFile, List.lookup_cons]
    by_cases hij : i = j
    · subst hij; simp
    · rw [show (K k i == K k j) = false by simp [K_inj, hij]]
      exact (filesFrom_lookup k F e h0 hs n (j+1) i).trans (ite_congr (propext (by omega)) (fun _ => rfl) (fun _ => rfl))

theorem expFrom_append {α β} (k : Nat) (g : Nat → β → α) : ∀ (l : List β) (i : Nat) (x : β),
    expFrom k g i (l ++ [x]) = expFrom k g i l ++ [(K k (i + l.length), g (i + l.length) x)] := by
  intro l
  induction l with
  | nil => intro i x; simp [expFrom]
  | cons y ys ih =>
    intro i x
    simp only [List.cons_append, expFrom, ih, List.length_cons]
    rw [show i + 1 + ys.length = i + (ys.length + 1) by omega]

theorem expFrom_has {α β} (k : Nat) (g : Nat → β → α) (l : List β) (j : Nat) :
    (expFrom k g 0 l).has (K k j) = decide (j < l.length) := by
  unfold Map.has
  rw [expFrom_lookup]
  simp only [Nat.zero_le, if_true, Nat.sub_zero]
  by_cases h : j < l.length <;> simp [h]

theorem expFrom_get {α β} (k : Nat) (g : Nat → β → α) (l : List β) (j : Nat) :
    (expFrom k g 0 l).get? (K k j) = (l[j]?).map (g j) := by
  unfold Map.get?
  rw [expFrom_lookup]; simp

theorem expFrom_keys {α β} (k : Nat) (g : Nat → β → α) : ∀ (l : List β) (i : Nat),
    (expFrom k g i l).keys = (List.range' i l.length).map (K k) := by
  intro l
  induction l with
  | nil => intro i; rfl
  | cons x xs ih =>
    intro i
    simp only [expFrom, Map.keys, List.map_cons, List.length_cons, List.range'_succ]
    have := ih (i+1); simp only [Map.keys] at this; rw [this]

theorem expFrom_keys_lt {α β} (k : Nat) (g : Nat → β → α) : ∀ (l : List β) (i : Nat), ∀ p ∈ expFrom k g i l, p.1 < K k (i + l.length) := by
  intro l i p hp
  have hk : p.1 ∈ (expFrom k g i l).keys := List.mem_map_of_mem hp
  rw [expFrom_keys] at hk
  obtain ⟨j, hj, e⟩ := List.mem_map.1 hk
  exact e ▸ K_lt.2 (List.mem_range'_1.1 hj).2

theorem expFrom_modify {α β} (k : Nat) (g : Nat → β → α) (f : α → α) (v : Nat) : ∀ (l : List β) (i : Nat),
    (expFrom k g i l).modify (K k v) f = expFrom k (fun j x => if j = v then f (g j x) else g j x) i l := by
  intro l
  induction l with
  | nil => intro i; rfl
  | cons x xs ih =>
    intro i
    have := ih (i+1)
    simp only [Map.modify] at this ⊢
    simp only [expFrom, List.map_cons, this]
    by_cases h : i = v
    · subst h; simp
    · simp [K_inj, h]

theorem ite_nil {α} {c : Prop} [Decidable c] {x y : List α} (hx : x = []) (hy : y = []) : (if c then x else y) = [] := by
  split <;> assumption

theorem perm_flatMap_filter {α : Type} (f : α → Nat) : ∀ (keys : List Nat), keys.Nodup → ∀ (l : List α), (∀ x ∈ l, f x ∈ keys) →
    (keys.flatMap fun k => l.filter (fun x => f x = k)).Perm l
  | [], _, [], _ => .nil
  | [], _, x :: _, h => absurd (h x (by simp)) (by simp)
  | k :: ks, hnd, l, h => by
    obtain ⟨hk, hks⟩ := List.nodup_cons.1 hnd
    -- split off the group of `k`; the other groups do not see its elements
    have hrest : ∀ k' ∈ ks, l.filter (fun x => f x = k') = (l.filter (fun x => !decide (f x = k))).filter (fun x => f x = k') := by
      intro k' hk'
      have hne : ¬ k' = k := fun e => hk (e ▸ hk')
      rw [List.filter_filter]
      refine List.filter_congr fun x _ => ?_
      by_cases e : f x = k' <;> simp [e, hne]
    rw [List.flatMap_cons, List.flatMap_def, List.map_congr_left hrest, ← List.flatMap_def]
    refine (List.Perm.append_left _ (perm_flatMap_filter f ks hks _ fun x hx => ?_)).trans
      (List.filter_append_perm (fun x => decide (f x = k)) l)
    simp only [List.mem_filter, Bool.not_eq_true', decide_eq_false_iff_not] at hx
    exact (List.mem_cons.1 (h x hx.1)).resolve_left hx.2

theorem nodup_eraseDups : ∀ (l : List Nat), l.eraseDups.Nodup
  | [] => by simp
  | a :: as => by
    rw [List.eraseDups_cons]
    exact List.nodup_cons.2 ⟨fun hm => by simpa using List.mem_eraseDups.1 hm, nodup_eraseDups _⟩
termination_by l => l.length
decreasing_by exact Nat.lt_succ_of_le (List.length_filter_le _ as)

end Tr.Load
