/-
  TrVerif.Proofs.Slice — the per-trip lists of a well-formed dataset are the trip's connections in
  hop order (forward) and in reverse hop order (reverse), hence the index slice `optimizeJourney`
  scans holds exactly the hops between the leg's boarding and alighting connection.
-/
import TrVerif.Proofs.DataFacts
import TrVerif.Model.Journey
namespace Tr

theorem filter_conns_trip {ds : Dataset} (h : WFSchedule ds) {tr : TripRec} (htr : tr ∈ ds.trips) :
    ds.conns.filter (fun c => decide (c.trip = tr.id)) = ds.tripConns tr := by
  rw [Dataset.conns, filter_flatMap ds.tripConns (fun t => decide (t.id = tr.id)) _ ds.trips
    fun t _ c hc => by rw [tripConns_trip ds t c hc], filter_id_of_nodup h.nodup htr]
  exact List.append_nil _

/-- `Trip::forwardConnections` of a well-formed dataset: the trip's connections in hop order -/
theorem tripFwd_eq {ds : Dataset} (h : WFSchedule ds) {tr : TripRec} (htr : tr ∈ ds.trips)
    (hdep : ∀ i j, i ≤ j → j < tr.arr.length → tr.dep.getD i 0 ≤ tr.dep.getD j 0) :
    ds.tripFwd tr.id = ds.tripConns tr := by
  have hs : SortedBy fwdLt (ds.tripConns tr) := tripConns_pairwise_of ds tr fun i j hij hj => by
    have := hdep i j (by omega) (by omega)
    simp only [fwdLt, Bool.or_eq_false_iff, Bool.and_eq_false_iff, decide_eq_false_iff_not]
    simp only [connOf_dep, connOf_trip, connOf_seq]
    omega
  simp only [Dataset.tripFwd, Dataset.fwdAll]
  rw [filter_isort fwdLt fwdLt_strictWeak, filter_conns_trip h htr, isort_sorted fwdLt _ hs]

/-- `Trip::reverseConnections` of a well-formed dataset: the trip's connections, last hop first -/
theorem tripRev_eq {ds : Dataset} (h : WFSchedule ds) {tr : TripRec} (htr : tr ∈ ds.trips) :
    ds.tripRev tr.id = (ds.tripConns tr).reverse := by
  have hs : (ds.tripConns tr).Pairwise (fun a b => revLt b a = true) := tripConns_pairwise_of ds tr fun i j hij hj => by
    have := h.arrMono tr htr (i + 1) (j + 1) (by omega) (by omega)
    simp only [revLt, Bool.or_eq_true, Bool.and_eq_true, decide_eq_true_eq]
    simp only [connOf_arr, connOf_trip, connOf_seq, true_and]
    omega
  simp only [Dataset.tripRev, Dataset.revAll]
  rw [filter_isort revLt revLt_strictWeak, filter_conns_trip h htr, isort_reverse revLt _ hs]

theorem mem_reverse_slice {α : Type} (L : List α) {s0 s1 : Nat} (hs : s0 ≤ s1) (hs1 : s1 < L.length) {c : α} :
    c ∈ (L.reverse.drop (L.length - 1 - s1)).take (s1 - s0 + 1) ↔
      ∃ i, ∃ (hi : i < L.length), s0 ≤ i ∧ i ≤ s1 ∧ L[i] = c := by
  rw [List.mem_iff_getElem]
  simp only [List.length_take, List.length_drop, List.length_reverse, List.getElem_take, List.getElem_drop,
    List.getElem_reverse]
  constructor
  · rintro ⟨k, hk, e⟩
    exact ⟨L.length - 1 - (L.length - 1 - s1 + k), by omega, by omega, by omega, e⟩
  · rintro ⟨i, hi, h0, h1, e⟩
    refine ⟨s1 - i, by omega, ?_⟩
    rw [← e]
    congr 1
    omega

theorem mem_revSlice_iff {ds : Dataset} (h : WFSchedule ds) {tr : TripRec} (htr : tr ∈ ds.trips)
    {s0 s1 : Nat} (hs : s0 ≤ s1) (hs1 : s1 < tr.arr.length - 1) {c : Conn} :
    c ∈ revSlice ds tr.id s0 s1 ↔ ∃ k, s0 ≤ k ∧ k ≤ s1 ∧ ds.connOf tr k = c := by
  have hlen := tripConns_length ds tr
  simp only [revSlice, tripRev_eq h htr, List.length_reverse]
  rw [mem_reverse_slice _ hs (by omega)]
  simp only [tripConns_getElem]
  exact ⟨fun ⟨k, _, h0, h1, e⟩ => ⟨k, h0, h1, e⟩, fun ⟨k, h0, h1, e⟩ => ⟨k, by omega, h0, h1, e⟩⟩

end Tr
