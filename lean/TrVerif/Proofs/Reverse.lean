/-
  TrVerif.Proofs.Reverse — invariant of the reverse scan (used by C01, C02, C10).

  For every prefix `pre` of the scanned connections the tables of the scan satisfy `RInv`:
  every trip's exit connection is alightable and arrives no later than the label of its stop;
  every stored per-stop step boards a scanned connection whose trip has such an exit further
  along, reached over a real footpath within the transfer maximum, and the label of the stop is
  exactly "boarding departure - walk - minimum waiting"; stops without such a step still carry
  their initial (egress) values; access candidates board at their own stop.
-/
import TrVerif.Proofs.Fold
import TrVerif.Proofs.Tables
namespace Tr

def ArrMono (C : List Conn) : Prop :=
  ∀ a ∈ C, ∀ b ∈ C, a.trip = b.trip → a.seq ≤ b.seq → a.arr ≤ b.arr

def SortedRev (l : List Conn) : Prop := l.Pairwise (fun a c => revLt c a = false)

theorem revLt_false {c a : Conn} (h : revLt c a = false) :
    c.arr ≤ a.arr ∧ (a.arr ≤ c.arr → c.trip = a.trip → c.seq ≤ a.seq) := by
  simp only [revLt, Bool.or_eq_false_iff, Bool.and_eq_false_iff, decide_eq_false_iff_not] at h
  refine ⟨by omega, fun hd ht => ?_⟩
  rcases h.2 with h3 | h3
  · omega
  · rcases h3.2 with h4 | h4
    · exact absurd ht h4
    · omega

theorem SortedRev.before {l : List Conn} (h : SortedRev l) (a c : Conn) (pre rest : List Conn)
    (hl : l = pre ++ c :: rest) (ha : a ∈ pre) : revLt c a = false := by
  subst hl
  have := List.pairwise_append.mp h
  exact this.2.2 a ha c (List.mem_cons_self ..)

def ExitFact (pre : List Conn) (s : RState) (T : Nat) (x : Conn) : Prop :=
  x ∈ pre ∧ x.trip = T ∧ x.canUnboard = true ∧ x.arr ≤ s.lab x.arrStop

/-- a ride `e … x` usable from the tables; the last clause: the alighting is early enough for whatever follows at
    its stop -/
def RideFact (pre : List Conn) (s : RState) (e x : Conn) : Prop :=
  e ∈ pre ∧ x ∈ pre ∧ e.trip = x.trip ∧ e.seq ≤ x.seq ∧ e.canBoard = true ∧ x.canUnboard = true ∧
  x.arr ≤ s.lab x.arrStop

def StepFact (cx : Ctx) (pre : List Conn) (s : RState) (y : Nat) (js : JStep) (e : Conn) : Prop :=
  ∃ x, js.exit = some x ∧ RideFact pre s e x ∧
    (⟨y, js.walk, js.dist⟩ : NTD) ∈ cx.ds.rfootOf e.depStop ∧ js.walk ≤ cx.p.maxTransfer ∧
    s.lab y = e.dep - js.walk - e.effWait cx.p.minWait

/-- the tests of `AccOK` that a boarding kept for an access stop has passed (departure-time queries) -/
def AccAccepted (cx : Ctx) (y : Nat) (e : Conn) : Prop :=
  cx.depT ≠ -1 → ∃ ac, cx.nodesAccess y = some ac ∧ cx.depT ≤ e.dep - ac.time - e.effWait cx.p.minWait ∧
    (cx.p.maxFirstWait < e.effWait cx.p.minWait ∨ e.dep - cx.depT - ac.time ≤ cx.p.maxFirstWait)

def AccFact (cx : Ctx) (pre : List Conn) (s : RState) (y : Nat) (a : JStep) : Prop :=
  ∃ e x, a.enter = some e ∧ a.exit = some x ∧ RideFact pre s e x ∧ e.depStop = y ∧ AccAccepted cx y e

structure RInv (cx : Ctx) (pre : List Conn) (s : RState) : Prop where
  exit : ∀ T x, s.exitC T = some x → ExitFact pre s T x
  step : ∀ y e, (s.steps y).enter = some e → StepFact cx pre s y (s.steps y) e
  init : ∀ y, (s.steps y).enter = none → s.steps y = (RState.init cx).steps y ∧ s.lab y = (RState.init cx).lab y
  acc : ∀ y a, s.acc y = some a → AccFact cx pre s y a

theorem RideFact.mono {pre pre' : List Conn} {s s' : RState} {e x : Conn}
    (h : RideFact pre s e x) (hp : ∀ a ∈ pre, a ∈ pre') (hl : ∀ y, s.lab y ≤ s'.lab y) : RideFact pre' s' e x :=
  ⟨hp _ h.1, hp _ h.2.1, h.2.2.1, h.2.2.2.1, h.2.2.2.2.1, h.2.2.2.2.2.1, Int.le_trans h.2.2.2.2.2.2 (hl _)⟩

theorem RInv.mono_pre {cx : Ctx} {pre pre' : List Conn} {s : RState} (h : RInv cx pre s) (hp : ∀ a ∈ pre, a ∈ pre') :
    RInv cx pre' s where
  exit := fun T x hx => let ⟨a, b, c, d⟩ := h.exit T x hx; ⟨hp _ a, b, c, d⟩
  step := fun y e he => let ⟨x, a, b, c⟩ := h.step y e he; ⟨x, a, b.mono hp (fun _ => Int.le_refl _), c⟩
  init := h.init
  acc := fun y a ha => let ⟨e, x, a1, a2, a3, a4⟩ := h.acc y a ha; ⟨e, x, a1, a2, a3.mono hp (fun _ => Int.le_refl _), a4⟩

theorem RInv.updStep {cx : Ctx} {pre : List Conn} {s : RState} (h : RInv cx pre s)
    (y : Nat) (v : Int) (js : JStep) (e : Conn) (hv : s.lab y < v) (hje : js.enter = some e)
    (hjs : StepFact cx pre { s with lab := upd s.lab y v, steps := upd s.steps y js } y js e) :
    RInv cx pre { s with lab := upd s.lab y v, steps := upd s.steps y js } := by
  have hl := le_upd_of_lt hv
  constructor
  · intro T x hx
    obtain ⟨a, b, c, d⟩ := h.exit T x hx
    exact ⟨a, b, c, Int.le_trans d (hl _)⟩
  · intro z e' he'
    by_cases hz : z = y
    · subst hz
      simp only [upd_same] at he' ⊢
      rw [hje] at he'; cases he'
      exact hjs
    · simp only [upd_other _ _ _ _ hz] at he' ⊢
      obtain ⟨x, a, b, c, d, f⟩ := h.step z e' he'
      refine ⟨x, a, b.mono (fun _ m => m) hl, c, d, ?_⟩
      simp [upd, hz, f]
  · intro z hz'
    by_cases hz : z = y
    · subst hz; simp only [upd_same] at hz'; rw [hje] at hz'; cases hz'
    · simp only [upd_other _ _ _ _ hz] at hz' ⊢
      exact h.init z hz'
  · intro z a ha
    obtain ⟨e', x, a1, a2, a3, a4⟩ := h.acc z a ha
    exact ⟨e', x, a1, a2, a3.mono (fun _ m => m) hl, a4⟩

theorem RInv.updAcc {cx : Ctx} {pre : List Conn} {s : RState} (h : RInv cx pre s)
    (y : Nat) (a : JStep) (ha : AccFact cx pre s y a) :
    RInv cx pre { s with acc := upd s.acc y (some a) } where
  exit := h.exit
  step := h.step
  init := h.init
  acc := upd_all (P := fun z (o : Option JStep) => ∀ b, o = some b → AccFact cx pre s z b)
    (fun b hb => by cases hb; exact ha) h.acc

structure BoardCtx (cx : Ctx) (pre : List Conn) (s : RState) (c x : Conn) : Prop where
  hc : c ∈ pre
  hcb : c.canBoard = true
  hx : s.exitC c.trip = some x
  hseq : c.seq ≤ x.seq

theorem BoardCtx.ride {cx : Ctx} {pre : List Conn} {s : RState} {c x : Conn} (b : BoardCtx cx pre s c x)
    (h : RInv cx pre s) (s' : RState) (hl : ∀ y, s.lab y ≤ s'.lab y) : RideFact pre s' c x := by
  obtain ⟨xa, xb, xc, xd⟩ := h.exit _ _ b.hx
  exact ⟨b.hc, xa, xb.symm, b.hseq, b.hcb, xc, Int.le_trans xd (hl _)⟩

def Keeps (cx : Ctx) (pre : List Conn) (s s' : RState) : Prop :=
  RInv cx pre s' ∧ s'.exitC = s.exitC ∧ ∀ y, s.lab y ≤ s'.lab y

theorem Keeps.refl {cx : Ctx} {pre : List Conn} {s : RState} (h : RInv cx pre s) : Keeps cx pre s s :=
  ⟨h, rfl, fun _ => Int.le_refl _⟩

theorem revFootLabel_keeps {cx : Ctx} {pre : List Conn} {s : RState} {c x : Conn} {f : NTD}
    (h : RInv cx pre s) (b : BoardCtx cx pre s c x) (hf : f ∈ cx.ds.rfootOf c.depStop)
    (hmax : f.time ≤ cx.p.maxTransfer) :
    Keeps cx pre s (revFootLabel c (c.effWait cx.p.minWait) s f) := by
  unfold revFootLabel
  split
  · rename_i hgt
    have hl := le_upd_of_lt hgt
    refine ⟨?_, rfl, hl⟩
    apply h.updStep f.stop _ _ c hgt rfl
    refine ⟨x, b.hx, b.ride h _ hl, ?_, hmax, by simp⟩
    cases f; exact hf
  · exact Keeps.refl h

/-- the acceptance tests a boarding at its own stop must pass to be kept (`reverse_calculation.cpp:158-171`):
    none for an arrival-time query; for the second pass of a departure-time query the stop must be an
    access stop from which the boarding is not before the requested departure, within the
    first-waiting cap (or the cap is below the minimum waiting time in force) -/
def AccOK (cx : Ctx) (c : Conn) : Prop :=
  cx.depT = -1 ∨ ∃ a, cx.nodesAccess c.depStop = some a ∧ cx.depT ≤ c.dep - a.time - c.effWait cx.p.minWait ∧
    (cx.p.maxFirstWait < c.effWait cx.p.minWait ∨ c.dep - cx.depT - a.time ≤ cx.p.maxFirstWait)

theorem revAccAccept_iff (cx : Ctx) (c : Conn) (s : RState) (f : NTD) :
    revAccAccept cx c (c.effWait cx.p.minWait) s f = true ↔ f.stop = c.depStop ∧
      (∀ js, s.acc f.stop = some js →
        ∃ e, js.enter = some e ∧ e.dep - e.effWait cx.p.minWait ≤ c.dep - c.effWait cx.p.minWait) ∧ AccOK cx c := by
  unfold revAccAccept AccOK
  simp only [Bool.and_eq_true, Bool.or_eq_true, decide_eq_true_eq, and_assoc]
  refine and_congr_right fun _ => and_congr ?_ ?_
  · cases s.acc f.stop with
    | none => simp
    | some js => cases he : js.enter <;> simp [he]
  · by_cases h : cx.depT = -1
    · simp [h]
    · cases cx.nodesAccess c.depStop <;> simp [h]

theorem revFootAcc_keeps {cx : Ctx} {pre : List Conn} {s s1 : RState} {c x : Conn} {f : NTD}
    (h : RInv cx pre s) (b : BoardCtx cx pre s c x) (k : Keeps cx pre s s1) :
    Keeps cx pre s (revFootAcc cx c (c.effWait cx.p.minWait) s1 f) := by
  unfold revFootAcc
  split
  · next hacc =>
    obtain ⟨hself, -, hok⟩ := (revAccAccept_iff cx c s1 f).1 hacc
    refine ⟨k.1.updAcc _ _ ⟨c, x, rfl, ?_, b.ride h _ k.2.2, hself.symm, fun hd => ?_⟩, k.2.1, k.2.2⟩
    · show s1.exitC c.trip = some x
      rw [k.2.1]; exact b.hx
    · obtain ⟨ac, hna, h1, h2⟩ := hok.resolve_left hd
      exact ⟨ac, by rw [hself]; exact hna, h1, h2⟩
  · exact k

theorem revFoot_keeps {cx : Ctx} {pre : List Conn} {s : RState} {c x : Conn} {f : NTD}
    (h : RInv cx pre s) (b : BoardCtx cx pre s c x) (hf : f ∈ cx.ds.rfootOf c.depStop) :
    Keeps cx pre s (revFoot cx c (c.effWait cx.p.minWait) s f) := by
  unfold revFoot
  split
  · exact Keeps.refl h
  · split
    · rename_i hmax
      exact revFootAcc_keeps h b (revFootLabel_keeps h b hf hmax)
    · exact Keeps.refl h

theorem Keeps.trans {cx : Ctx} {pre : List Conn} {s s1 s2 : RState} (a : Keeps cx pre s s1) (b : Keeps cx pre s1 s2) :
    Keeps cx pre s s2 :=
  ⟨b.1, by rw [b.2.1, a.2.1], fun y => Int.le_trans (a.2.2 y) (b.2.2 y)⟩

theorem RInv.congr {cx : Ctx} {pre : List Conn} {s s' : RState} (h : RInv cx pre s)
    (h1 : s'.lab = s.lab) (h2 : s'.steps = s.steps) (h3 : s'.exitC = s.exitC) (h4 : s'.acc = s.acc) : RInv cx pre s' := by
  cases s; cases s'
  cases h1; cases h2; cases h3; cases h4
  exact ⟨h.exit, h.step, h.init, h.acc⟩

def revMark (cx : Ctx) (single : Bool) (s : RState) (c : Conn) : RState :=
  if single = true ∧ ¬ s.reached = true ∧ ((cx.nodesAccess c.depStop).any fun (a : NTD) => decide (a.time ≠ -1)) = true then
    { s with reached := true, tentAccDep := c.dep }
  else s

theorem revBoard_eq (cx : Ctx) (single : Bool) (s : RState) (c : Conn) :
    revBoard cx single s c =
      if c.canBoard = true ∧ (s.exitC c.trip).isSome = true then
        (cx.ds.rfootOf c.depStop).foldl (revFoot cx c (c.effWait cx.p.minWait)) (revMark cx single s c)
      else s := rfl

theorem revMark_frame (cx : Ctx) (single : Bool) (s : RState) (c : Conn) : revMark cx single s c =
    { s with reached := (revMark cx single s c).reached, tentAccDep := (revMark cx single s c).tentAccDep } := by
  unfold revMark; split <;> rfl

theorem revBoard_keeps {cx : Ctx} {pre : List Conn} {s : RState} {c : Conn} (single : Bool)
    (h : RInv cx pre s) (hc : c ∈ pre)
    (hseq : ∀ x, s.exitC c.trip = some x → c.seq ≤ x.seq) :
    RInv cx pre (revBoard cx single s c) := by
  rw [revBoard_eq]
  split
  · next hg =>
    obtain ⟨x, hx⟩ := Option.isSome_iff_exists.mp hg.2
    -- the `reached` bookkeeping does not touch the tables
    rw [revMark_frame]
    generalize (revMark cx single s c).reached = r, (revMark cx single s c).tentAccDep = t
    exact (foldl_inv (Keeps cx pre { s with reached := r, tentAccDep := t })
      (fun _ f hf k => k.trans (revFoot_keeps k.1 ⟨hc, hg.1, by rw [k.2.1]; exact hx, hseq x hx⟩ hf))
      (Keeps.refl (h.congr rfl rfl rfl rfl))).1
  · exact h

theorem revUnboard_inv {cx : Ctx} {pre : List Conn} {s : RState} {c : Conn}
    (hmw : 0 ≤ cx.p.minWait) (h : RInv cx pre s) (hc : c ∈ pre)
    (hreach : (s.exitC c.trip).isSome ∨ s.lab c.arrStop ≥ c.arr) :
    RInv cx pre (revUnboard cx s c) ∧
    (∀ x, (revUnboard cx s c).exitC c.trip = some x → x = c ∨ s.exitC c.trip = some x) := by
  unfold revUnboard
  split
  · next hcond =>
    have hle : c.arr ≤ s.lab c.arrStop := by
      rcases hcond.2 with hnone | hcl
      · exact hreach.resolve_left (by rw [Option.isNone_iff_eq_none.1 hnone]; simp)
      · simp only [closerExit, Bool.and_eq_true, decide_eq_true_eq] at hcl
        have hnn : 0 ≤ enterWait cx.p.minWait (s.steps c.arrStop) := by
          unfold enterWait; split
          · exact effWait_nonneg _ _ hmw
          · exact Int.le_refl _
        omega
    refine ⟨⟨fun T x hx => ?_, h.step, h.init, h.acc⟩,
      fun x hx => by simp only [upd_same] at hx; cases hx; exact Or.inl rfl⟩
    by_cases hT : T = c.trip
    · subst hT; simp only [upd_same] at hx; cases hx; exact ⟨hc, rfl, hcond.1, hle⟩
    · simp only [upd_other _ _ _ _ hT] at hx; exact h.exit T x hx
  · exact ⟨h, fun x hx => Or.inr hx⟩

/-- an exit chosen earlier in the descending-arrival order lies further along the trip -/
theorem seq_le_of_sorted {C : List Conn} (hm : ArrMono C) {c x : Conn} (hc : c ∈ C) (hx : x ∈ C)
    (ht : x.trip = c.trip) (hs : revLt c x = false) : c.seq ≤ x.seq := by
  by_cases hlt : c.seq ≤ x.seq
  · exact hlt
  · exact (revLt_false hs).2 (hm x hx c hc ht (by omega)) ht.symm

theorem revStep_branch (cx : Ctx) (usable : Nat → Bool) (single : Bool) (s : RState) (c : Conn) :
    revStep cx usable single s c = s ∨
    (revStep cx usable single s c = { s with stop := true } ∧
      ((single = true ∧ s.reached = true ∧ cx.maxAccess ≥ 0 ∧ c.arr < s.tentAccDep - cx.maxAccess - cx.p.minWait) ∨
        cx.arrT - c.arr > cx.p.maxTotal)) ∨
    (s.stop = false ∧ ((s.exitC c.trip).isSome ∨ s.lab c.arrStop ≥ c.arr) ∧
      revStep cx usable single s c =
        { revBoard cx single (revUnboard cx s c) c with count := (revBoard cx single (revUnboard cx s c) c).count + 1 }) := by
  unfold revStep
  by_cases h1 : s.stop = true
  · left; rw [if_pos h1]
  · rw [if_neg h1]
    by_cases h2 : ¬ (c.arr ≤ cx.arrT - (if single = true then cx.minEgress else 0))
    · left; rw [if_pos h2]
    · rw [if_neg h2]
      by_cases h3 : ¬ (usable c.trip = true ∧ ¬ cx.disabled c.trip = true)
      · left; rw [if_pos h3]
      · rw [if_neg h3]
        by_cases h4 : revBreak cx single s c = true
        · right; left; rw [if_pos h4]
          exact ⟨rfl, by simpa [revBreak] using h4⟩
        · rw [if_neg h4]
          by_cases h5 : ¬ ((s.exitC c.trip).isSome = true ∨ s.lab c.arrStop ≥ c.arr)
          · left; rw [if_pos h5]
          · rw [if_neg h5]
            right; right
            exact ⟨by simpa using h1, Classical.not_not.mp h5, rfl⟩

theorem revStep_ind (P : RState → Prop) (cx : Ctx) (u : Nat → Bool) (single : Bool) (s : RState) (c : Conn) (h0 : P s) (hbreak : P { s with stop := true })
    (hgo : P { revBoard cx single (revUnboard cx s c) c with count := (revBoard cx single (revUnboard cx s c) c).count + 1 }) :
    P (revStep cx u single s c) := by
  rcases revStep_branch cx u single s c with h | ⟨h, _⟩ | ⟨_, _, h⟩ <;> rw [h] <;> assumption

theorem revStep_main (cx : Ctx) (usable : Nat → Bool) (single : Bool) (s : RState) (c : Conn) (h0 : s.stop = false)
    (h1 : c.arr ≤ cx.arrT - (if single = true then cx.minEgress else 0))
    (hu : usable c.trip = true) (h2 : cx.disabled c.trip = false) (h3 : cx.arrT - c.arr ≤ cx.p.maxTotal)
    (h3' : single = true → ¬ (s.reached = true ∧ cx.maxAccess ≥ 0 ∧ c.arr < s.tentAccDep - cx.maxAccess - cx.p.minWait))
    (h4 : (s.exitC c.trip).isSome = true ∨ s.lab c.arrStop ≥ c.arr) :
    revStep cx usable single s c =
      { revBoard cx single (revUnboard cx s c) c with count := (revBoard cx single (revUnboard cx s c) c).count + 1 } := by
  have hbr : ¬ revBreak cx single s c = true := by
    unfold revBreak
    simp only [decide_eq_true_eq]
    rintro (⟨hs, hh⟩ | hh)
    · exact h3' hs hh
    · omega
  unfold revStep
  rw [if_neg (by rw [h0]; simp), if_neg (fun h => h h1), if_neg (by rw [hu, h2]; simp), if_neg hbr, if_neg (fun h => h h4)]

theorem revStep_inv {cx : Ctx} {pre0 : List Conn} {s : RState} {c : Conn} (usable : Nat → Bool) (single : Bool)
    (C : List Conn) (hm : ArrMono C) (hcC : c ∈ C) (hpC : ∀ a ∈ pre0, a ∈ C)
    (hsorted : ∀ a ∈ pre0, revLt c a = false) (hmw : 0 ≤ cx.p.minWait)
    (h : RInv cx pre0 s) : RInv cx (pre0 ++ [c]) (revStep cx usable single s c) := by
  have h' : RInv cx (pre0 ++ [c]) s := h.mono_pre (fun a ha => List.mem_append_left _ ha)
  have hc : c ∈ pre0 ++ [c] := by simp
  rcases revStep_branch cx usable single s c with e | ⟨e, _⟩ | ⟨_, hreach, e⟩
  · rw [e]; exact h'
  · rw [e]; exact h'.congr rfl rfl rfl rfl
  · rw [e]
    obtain ⟨hu, hex⟩ := revUnboard_inv hmw h' hc hreach
    have hseq : ∀ x, (revUnboard cx s c).exitC c.trip = some x → c.seq ≤ x.seq := by
      intro x hx
      rcases hex x hx with e | e
      · subst e; exact Nat.le_refl _
      · obtain ⟨xa, xb, _, _⟩ := h.exit _ _ e
        exact seq_le_of_sorted hm hcC (hpC _ xa) xb (hsorted _ xa)
    exact (revBoard_keeps single hu hc hseq).congr rfl rfl rfl rfl

theorem revScanList_inv {cx : Ctx} (usable : Nat → Bool) (single : Bool) (C : List Conn) (hm : ArrMono C)
    (hmw : 0 ≤ cx.p.minWait) :
    ∀ (post pre : List Conn) (s : RState), (∀ a ∈ pre ++ post, a ∈ C) → SortedRev (pre ++ post) →
      RInv cx pre s → RInv cx (pre ++ post) (post.foldl (revStep cx usable single) s) := by
  intro post pre s hC hs h
  exact foldl_prefix_inv (· ∈ C) (fun a c => revLt c a = false) (fun _ => True) (RInv cx) (fun _ _ _ => trivial)
    (fun pre c s hM hR _ h => revStep_inv usable single C hm (hM c (by simp))
      (fun a ha => hM a (List.mem_append_left _ ha)) hR hmw h) post pre s hC hs trivial h

end Tr
