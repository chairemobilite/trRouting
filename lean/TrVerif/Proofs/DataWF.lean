/-
  TrVerif.Proofs.DataWF — a well-formed dataset meets the hypotheses of the clean-up lemma
  (`TimeWF`, `SliceOK`), for the restricted dataset a calculation runs on.
-/
import TrVerif.Proofs.Cleanup
namespace Tr

/-- the well-formedness of the quantifier of C01: unique trip identifiers, times non-decreasing
    along each trip (arrivals, departures, and each hop takes >= 0 s), walks >= 0, every stop a
    vehicle leaves from is transferable to itself in 0 s -/
structure WFData (ds : Dataset) : Prop extends WFSchedule ds where
  depMono : ∀ tr ∈ ds.trips, ∀ i j, i ≤ j → j < tr.arr.length → tr.dep.getD i 0 ≤ tr.dep.getD j 0
  hop : ∀ tr ∈ ds.trips, ∀ i, i + 1 < tr.arr.length → tr.dep.getD i 0 ≤ tr.arr.getD (i + 1) 0
  footNonneg : ∀ f ∈ ds.foot, 0 ≤ f.time
  selfFoot : ∀ c ∈ ds.conns, ∃ d, (⟨c.depStop, c.depStop, 0, d⟩ : Foot) ∈ ds.foot

theorem mem_restrict_trips {ds : Dataset} {sc : Scenario} {tr : TripRec} :
    tr ∈ (ds.restrict (ds.connSetOf sc)).trips ↔ tr ∈ ds.trips ∧ ds.tripEnabled sc tr.id = true := by
  simp only [Dataset.restrict, List.mem_filter, List.contains_iff_mem, mem_connSetOf_trips]
  exact ⟨fun h => ⟨h.1, h.2.2⟩, fun h => ⟨h.1, List.mem_map_of_mem h.1, h.2⟩⟩

theorem restrict_wfSchedule {ds : Dataset} (h : WFSchedule ds) (cs : ConnSet) : WFSchedule (ds.restrict cs) :=
  ⟨List.Nodup.sublist (List.Sublist.map _ List.filter_sublist) h.nodup,
    fun tr htr => h.arrMono tr (List.mem_filter.mp htr).1⟩

theorem slice_dataset {ds : Dataset} (h : WFSchedule ds) (sc : Scenario) {e x : Conn}
    (he : e ∈ (ds.connSetOf sc).rev) (hx : x ∈ (ds.connSetOf sc).rev) (ht : e.trip = x.trip) (hs : e.seq ≤ x.seq) :
    ∃ tr ∈ ds.trips, ∃ i j, i ≤ j ∧ j < tr.arr.length - 1 ∧ ds.connOf tr i = e ∧ ds.connOf tr j = x ∧
      ds.tripEnabled sc tr.id = true ∧ tr ∈ (ds.restrict (ds.connSetOf sc)).trips ∧
      ∀ c, c ∈ revSlice (ds.restrict (ds.connSetOf sc)) e.trip (e.seq - 1) (x.seq - 1) ↔
        ∃ k, i ≤ k ∧ k ≤ j ∧ ds.connOf tr k = c := by
  obtain ⟨hec, hen⟩ := mem_connSetOf_rev.mp he
  obtain ⟨tr, htr, i, j, _, hj, rfl, rfl⟩ := same_trip h.nodup hec (connSetOf_rev_sub ds sc x hx) ht
  have hij : i ≤ j := Nat.le_of_succ_le_succ hs
  have htrR := mem_restrict_trips.mpr ⟨htr, hen⟩
  exact ⟨tr, htr, i, j, hij, hj, rfl, rfl, hen, htrR, fun c => mem_revSlice_iff (restrict_wfSchedule h _) htrR hij hj⟩

theorem sliceOK_dataset {ds : Dataset} (h : WFData ds) (p : Params) (sc : Scenario) (a e : List NTD) (depT arrT : Int) :
    SliceOK (mkCtx (ds.restrict (ds.connSetOf sc)) p (ds.connSetOf sc) a e depT arrT) (ds.connSetOf sc).rev := by
  intro ec hec xc hxc htrip hseq c hc
  obtain ⟨tr, htr, i, j, _, hj, rfl, rfl, hen, _, hsl⟩ := slice_dataset h.toWFSchedule sc hec hxc htrip hseq
  obtain ⟨k, h0, h1, rfl⟩ := (hsl c).mp hc
  -- hop `k` belongs to the scenario's reverse list: it is a connection of an enabled trip
  exact ⟨mem_connSetOf_rev.mpr ⟨connOf_mem_conns htr (by omega), hen⟩, rfl, Nat.succ_le_succ h0, Nat.succ_le_succ h1⟩

theorem timeWF_dataset {ds : Dataset} (h : WFData ds) (p : Params) (hmw : 0 ≤ p.minWait) (hmt : 0 ≤ p.maxTransfer)
    (sc : Scenario) (a e : List NTD) (depT arrT : Int) :
    TimeWF (mkCtx (ds.restrict (ds.connSetOf sc)) p (ds.connSetOf sc) a e depT arrT) (ds.connSetOf sc).rev := by
  have hsub := connSetOf_rev_sub ds sc
  have same := fun a ha b hb => same_trip h.nodup (hsub a ha) (hsub b hb)
  constructor
  · intro ec hec xc hxc ht hs
    obtain ⟨tr, htr, i, j, _, hj, rfl, rfl⟩ := same ec hec xc hxc ht
    -- hop `i` arrives after it leaves, and arrivals do not decrease from there to hop `j`
    exact Int.le_trans (h.hop tr htr i (by omega)) (h.arrMono tr htr (i + 1) (j + 1) hs (by omega))
  · intro a ha b hb; exact conns_arrMono h.toWFSchedule a (hsub a ha) b (hsub b hb)
  · intro a ha b hb ht hs
    obtain ⟨tr, htr, i, j, _, hj, rfl, rfl⟩ := same a ha b hb ht
    exact h.depMono tr htr i j (Nat.le_of_succ_le_succ hs) (by omega)
  · intro a ha b hb ht
    show a.effWait p.minWait = b.effWait p.minWait
    rw [conns_effWait h.toWFSchedule p a (hsub a ha), conns_effWait h.toWFSchedule p b (hsub b hb), ht]
  · exact hmw
  · intro z n hn
    show 0 ≤ n.time
    have := rfootOf_mem (ds := ds.restrict (ds.connSetOf sc)) hn
    exact h.footNonneg _ this
  · intro c hc
    obtain ⟨d, hd⟩ := h.selfFoot c (hsub c hc)
    refine ⟨d, ?_⟩
    show (⟨c.depStop, 0, d⟩ : NTD) ∈ (ds.restrict (ds.connSetOf sc)).rfootOf c.depStop
    simp only [Dataset.rfootOf, Dataset.restrict, List.mem_filterMap]
    exact ⟨_, hd, by simp⟩
  · exact hmt

end Tr
