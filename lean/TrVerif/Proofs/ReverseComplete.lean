/-
  TrVerif.Proofs.ReverseComplete — completeness of the reverse scan: whenever a traveller standing
  at a stop at some time can still reach the place by the requested arrival (`RReach`), the scan's
  label of that stop is at least that time; every trip with a usable alighting has an exit
  connection; every boarding that starts such a journey is matched by a kept boarding of its stop
  that is at least as late. The step of the invariant is proved once (`revStep_RCore`) for both
  variants of the scan: the all-nodes scan (`RC`) and the single calculation (`RCθ`, in `ReverseSingle`).
-/
import TrVerif.Proofs.Fold
import TrVerif.Proofs.Reverse
namespace Tr

/-- a traveller who stands at stop `y` at time `t` can reach the place by `cx.arrT`: by the egress walk, or - after
    the minimum waiting time - by walking one footpath to a boarding, riding one trip and continuing from there -/
inductive RReach (cx : Ctx) (C : List Conn) : Nat → Int → Prop
  | egress (g : NTD) : g ∈ cx.egressFoot → RReach cx C g.stop (cx.arrT - g.time)
  | ride (z : Nat) (t : Int) (e x : Conn) (f : NTD) :
      RReach cx C z t → e ∈ C → x ∈ C → x.arrStop = z → x.arr ≤ t →
      e.trip = x.trip → e.seq ≤ x.seq → e.canBoard = true → x.canUnboard = true → cx.disabled e.trip = false →
      f ∈ cx.ds.rfootOf e.depStop → f.time ≤ cx.p.maxTransfer →
      RReach cx C f.stop (e.dep - f.time - e.effWait cx.p.minWait)

structure RW (cx : Ctx) (L : List Conn) : Prop where
  posHop : ∀ c ∈ L, c.dep < c.arr
  depMono : ∀ a ∈ L, ∀ b ∈ L, a.trip = b.trip → a.seq ≤ b.seq → a.dep ≤ b.dep
  arrMono : ∀ a ∈ L, ∀ b ∈ L, a.trip = b.trip → a.seq ≤ b.seq → a.arr ≤ b.arr
  unique : ∀ a ∈ L, ∀ b ∈ L, a.trip = b.trip → a.seq = b.seq → a = b
  footNonneg : ∀ z, ∀ f ∈ cx.ds.rfootOf z, 0 ≤ f.time
  selfFoot : ∀ c ∈ L, ∃ f ∈ cx.ds.rfootOf c.depStop, f.stop = c.depStop ∧ f.time ≤ cx.p.maxTransfer
  mw : 0 ≤ cx.p.minWait
  egrNonneg : ∀ g ∈ cx.egressFoot, 0 ≤ g.time
  egrNodup : (cx.egressFoot.map (·.stop)).Nodup

theorem RReach.time_le_sub {cx : Ctx} {L P : List Conn} (w : RW cx L) (hP : ∀ a ∈ P, a ∈ L) {m : Int}
    (hm : ∀ g ∈ cx.egressFoot, m ≤ g.time) {y : Nat} {t : Int} (h : RReach cx P y t) : t ≤ cx.arrT - m := by
  induction h with
  | egress g hg => have := hm g hg; omega
  | ride z t e x f _ he hx h1 h2 h3 h4 h5 h6 h7 h8 h9 ih =>
    have hw := effWait_nonneg e cx.p.minWait w.mw
    have h10 := w.depMono e (hP e he) x (hP x hx) h3 h4
    have h11 := w.posHop x (hP x hx)
    have h12 := w.footNonneg _ f h8
    omega

theorem RReach.time_le {cx : Ctx} {L P : List Conn} (w : RW cx L) (hP : ∀ a ∈ P, a ∈ L) {y : Nat} {t : Int}
    (h : RReach cx P y t) : t ≤ cx.arrT := by
  have := h.time_le_sub w hP w.egrNonneg; omega

/-- a journey from time `t` only uses connections that arrive after `t` and by the requested arrival -/
theorem RReach.sub {cx : Ctx} {L P Q : List Conn} (w : RW cx L) (hP : ∀ a ∈ P, a ∈ L) {y : Nat} {t : Int}
    (h : RReach cx P y t) (hQ : ∀ a ∈ P, t < a.arr → a.arr ≤ cx.arrT → a ∈ Q) : RReach cx Q y t := by
  induction h with
  | egress g hg => exact RReach.egress g hg
  | ride z t e x f hsub he hx h1 h2 h3 h4 h5 h6 h7 h8 h9 ih =>
    have hw := effWait_nonneg e cx.p.minWait w.mw
    have hphe := w.posHop e (hP e he)
    have hfn := w.footNonneg _ f h8
    have ham := w.arrMono e (hP e he) x (hP x hx) h3 h4
    have hle := hsub.time_le w hP
    exact RReach.ride z t e x f (ih fun a ha hta => hQ a ha (by omega)) (hQ e he (by omega) (by omega))
      (hQ x hx (by omega) (by omega)) h1 h2 h3 h4 h5 h6 h7 h8 h9

theorem RReach.strengthen {cx : Ctx} {L P : List Conn} {c : Conn} (w : RW cx L) (hP : ∀ a ∈ P ++ [c], a ∈ L)
    {y : Nat} {t : Int} (h : RReach cx (P ++ [c]) y t) (ht : c.arr ≤ t) : RReach cx P y t :=
  h.sub w hP fun a ha hta _ => mem_of_mem_snoc_ne ha (by rintro rfl; omega)

def AccGe (cx : Ctx) (s : RState) (y : Nat) (b : Int) : Prop :=
  ∃ js e, s.acc y = some js ∧ js.enter = some e ∧ b ≤ e.dep - e.effWait cx.p.minWait

structure RBetter (cx : Ctx) (s s' : RState) : Prop where
  lab : ∀ y, s.lab y ≤ s'.lab y
  exit : ∀ T, (s.exitC T).isSome = true → (s'.exitC T).isSome = true
  acc : ∀ y b, AccGe cx s y b → AccGe cx s' y b

theorem RBetter.refl (cx : Ctx) (s : RState) : RBetter cx s s := ⟨fun _ => Int.le_refl _, fun _ h => h, fun _ _ h => h⟩

theorem RBetter.trans {cx : Ctx} {a b c : RState} (h1 : RBetter cx a b) (h2 : RBetter cx b c) : RBetter cx a c :=
  ⟨fun y => Int.le_trans (h1.lab y) (h2.lab y), fun T h => h2.exit T (h1.exit T h), fun y b h => h2.acc y b (h1.acc y b h)⟩

def AccWF (s : RState) : Prop := ∀ y js, s.acc y = some js → ∃ e, js.enter = some e

theorem AccWF.of_acc_eq {s s' : RState} (hwf : AccWF s) (h : s'.acc = s.acc) : AccWF s' :=
  fun y js hj => hwf y js (h ▸ hj)

def AccSrc (c : Conn) (s s' : RState) : Prop := ∀ y js, s'.acc y = some js → js.enter = some c ∨ s.acc y = some js

theorem AccSrc.accWF {c : Conn} {s s' : RState} (h : AccSrc c s s') (hwf : AccWF s) : AccWF s' :=
  fun y js hj => (h y js hj).elim (fun he => ⟨c, he⟩) (hwf y js)

theorem revFootLabel_better (cx : Ctx) (c : Conn) (mw : Int) (s : RState) (f : NTD) : RBetter cx s (revFootLabel c mw s f) := by
  unfold revFootLabel
  split
  · next h => exact ⟨le_upd_of_lt h, fun _ h => h, fun _ _ h => h⟩
  · exact RBetter.refl cx s

theorem revFootAcc_better (cx : Ctx) (c : Conn) (s : RState) (f : NTD) :
    RBetter cx s (revFootAcc cx c (c.effWait cx.p.minWait) s f) := by
  unfold revFootAcc
  split
  · next h =>
    refine ⟨fun _ => Int.le_refl _, fun _ h => h, ?_⟩
    intro y b ⟨js, e, hj, he, hb⟩
    by_cases hy : y = f.stop
    · subst hy
      obtain ⟨e', he', hle⟩ := ((revAccAccept_iff cx c s f).1 h).2.1 js hj
      rw [he] at he'; cases he'
      exact ⟨{ enter := some c, exit := s.exitC c.trip, walk := 0, dist := 0 }, c, by simp, rfl, by omega⟩
    · exact ⟨js, e, by simp only; rw [upd_other _ _ _ _ hy]; exact hj, he, hb⟩
  · exact RBetter.refl cx s

theorem revFootLabel_acc (c : Conn) (mw : Int) (s : RState) (f : NTD) : (revFootLabel c mw s f).acc = s.acc := by
  unfold revFootLabel; split <;> rfl

theorem revFootAcc_lab (cx : Ctx) (c : Conn) (mw : Int) (s : RState) (f : NTD) : (revFootAcc cx c mw s f).lab = s.lab := by
  unfold revFootAcc; split <;> rfl

theorem revFoot_better (cx : Ctx) (c : Conn) (s : RState) (f : NTD) :
    RBetter cx s (revFoot cx c (c.effWait cx.p.minWait) s f) := by
  unfold revFoot
  split
  · exact RBetter.refl cx s
  · split
    · exact RBetter.trans (revFootLabel_better cx c _ s f) (revFootAcc_better cx c _ f)
    · exact RBetter.refl cx s

theorem revFoot_acc_src (cx : Ctx) (c : Conn) (mw : Int) (s : RState) (f : NTD) : AccSrc c s (revFoot cx c mw s f) := by
  unfold revFoot
  split
  · exact fun y js h => Or.inr h
  · split
    · unfold revFootAcc
      split
      · intro y js hj
        simp only at hj
        by_cases hy : y = f.stop
        · subst hy; simp only [upd_same, Option.some.injEq] at hj; subst hj; exact Or.inl rfl
        · rw [upd_other _ _ _ _ hy, revFootLabel_acc] at hj; exact Or.inr hj
      · intro y js hj; rw [revFootLabel_acc] at hj; exact Or.inr hj
    · exact fun y js h => Or.inr h

theorem revFoot_frame (cx : Ctx) (c : Conn) (mw : Int) (s : RState) (f : NTD) : revFoot cx c mw s f =
    { s with lab := (revFoot cx c mw s f).lab, steps := (revFoot cx c mw s f).steps, acc := (revFoot cx c mw s f).acc } := by
  unfold revFoot revFootAcc revFootLabel
  split
  · rfl
  · split
    · split <;> split <;> rfl
    · rfl

theorem revFoot_fold_keeps {β : Type} (π : RState → β) (hπ : ∀ (s : RState) l st a, π { s with lab := l, steps := st, acc := a } = π s)
    (cx : Ctx) (c : Conn) (mw : Int) (fs : List NTD) (s : RState) : π (fs.foldl (revFoot cx c mw) s) = π s :=
  foldl_keeps π (fun t f => by rw [revFoot_frame]; exact hπ t _ _ _) fs s

theorem revFoot_fold_acc_src (cx : Ctx) (c : Conn) (mw : Int) (fs : List NTD) (s : RState) :
    AccSrc c s (fs.foldl (revFoot cx c mw) s) :=
  foldl_rel (AccSrc c) (fun _ _ _ h => Or.inr h) (fun h1 h2 y js h => (h2 y js h).elim Or.inl (h1 y js))
    (fun s f _ => revFoot_acc_src cx c mw s f) s

theorem revFoot_lab (cx : Ctx) (c : Conn) (mw : Int) (s : RState) (f : NTD) (hf : f.time ≤ cx.p.maxTransfer) (hn : 0 ≤ f.time) :
    c.dep - f.time - mw ≤ (revFoot cx c mw s f).lab f.stop := by
  unfold revFoot
  by_cases h1 : f.stop ≠ c.depStop ∧ s.lab f.stop > c.dep - mw
  · rw [if_pos h1]; omega
  · rw [if_neg h1, if_pos hf, revFootAcc_lab]
    unfold revFootLabel
    by_cases h2 : c.dep - f.time - mw > s.lab f.stop
    · rw [if_pos h2]; simp only [upd_same]; omega
    · rw [if_neg h2]; omega

theorem revFoot_acc (cx : Ctx) (c : Conn) (s : RState) (f : NTD) (hf : f.time ≤ cx.p.maxTransfer) (hs : f.stop = c.depStop)
    (hok : AccOK cx c) (hwf : AccWF s) :
    AccGe cx (revFoot cx c (c.effWait cx.p.minWait) s f) c.depStop (c.dep - c.effWait cx.p.minWait) := by
  unfold revFoot
  rw [if_neg (by intro h; exact h.1 hs), if_pos hf]
  unfold revFootAcc
  split
  · exact ⟨{ enter := some c, exit := (revFootLabel c (c.effWait cx.p.minWait) s f).exitC c.trip, walk := 0, dist := 0 }, c,
      by simp only; rw [← hs]; simp, rfl, Int.le_refl _⟩
  · next h =>
    -- not accepted although the other tests pass: the keep rule refused, so a later boarding is kept
    rw [revAccAccept_iff, revFootLabel_acc] at h
    cases hj : s.acc f.stop with
    | none => exact absurd ⟨hs, fun js hjs => (by rw [hj] at hjs; cases hjs), hok⟩ h
    | some js =>
      obtain ⟨e, he⟩ := hwf f.stop js hj
      refine ⟨js, e, by rw [revFootLabel_acc, ← hs]; exact hj, he, ?_⟩
      by_cases hle : e.dep - e.effWait cx.p.minWait ≤ c.dep - c.effWait cx.p.minWait
      · exact absurd ⟨hs, fun js' hjs' => (by rw [hj] at hjs'; cases hjs'; exact ⟨e, he, hle⟩), hok⟩ h
      · omega

theorem revUnboard_better (cx : Ctx) (s : RState) (c : Conn) : RBetter cx s (revUnboard cx s c) := by
  unfold revUnboard
  split
  · refine ⟨fun _ => Int.le_refl _, ?_, fun _ _ h => h⟩
    intro T hT
    simp only
    by_cases h : T = c.trip
    · subst h; simp
    · rw [upd_other _ _ _ _ h]; exact hT
  · exact RBetter.refl cx s

theorem revUnboard_stop (cx : Ctx) (s : RState) (c : Conn) : (revUnboard cx s c).stop = s.stop := by
  unfold revUnboard; split <;> rfl
theorem revUnboard_acc (cx : Ctx) (s : RState) (c : Conn) : (revUnboard cx s c).acc = s.acc := by
  unfold revUnboard; split <;> rfl
theorem revUnboard_lab (cx : Ctx) (s : RState) (c : Conn) : (revUnboard cx s c).lab = s.lab := by
  unfold revUnboard; split <;> rfl

theorem revUnboard_exit (cx : Ctx) (s : RState) (c : Conn) (hcu : c.canUnboard = true) :
    ((revUnboard cx s c).exitC c.trip).isSome = true := by
  unfold revUnboard
  by_cases h : c.canUnboard = true ∧ ((s.exitC c.trip).isNone = true ∨ closerExit cx s c = true)
  · rw [if_pos h]; simp
  · rw [if_neg h]
    cases hx : s.exitC c.trip with
    | some v => rfl
    | none => exact absurd ⟨hcu, Or.inl (by rw [hx]; rfl)⟩ h

theorem revMark_better (cx : Ctx) (single : Bool) (s : RState) (c : Conn) : RBetter cx s (revMark cx single s c) := by
  rw [revMark_frame]; exact ⟨fun _ => Int.le_refl _, fun _ h => h, fun _ _ h => h⟩

theorem revMark_acc (cx : Ctx) (single : Bool) (s : RState) (c : Conn) : (revMark cx single s c).acc = s.acc := by
  rw [revMark_frame]

theorem revBoard_better (cx : Ctx) (single : Bool) (s : RState) (c : Conn) (hwf : AccWF s) :
    RBetter cx s (revBoard cx single s c) ∧ AccWF (revBoard cx single s c) ∧ (revBoard cx single s c).stop = s.stop := by
  rw [revBoard_eq]
  split
  · refine ⟨(revMark_better cx single s c).trans
        (foldl_rel (RBetter cx) (RBetter.refl cx) RBetter.trans (fun s f _ => revFoot_better cx c s f) _),
      (revFoot_fold_acc_src cx c _ _ _).accWF (hwf.of_acc_eq (revMark_acc cx single s c)), ?_⟩
    rw [revFoot_fold_keeps (·.stop) (fun _ _ _ _ => rfl), revMark_frame]
  · exact ⟨RBetter.refl cx s, hwf, rfl⟩

section
variable {cx : Ctx} {single : Bool} {s : RState} {c : Conn} {f : NTD}

theorem revBoard_lab (hcb : c.canBoard = true) (hex : (s.exitC c.trip).isSome = true) (hf : f ∈ cx.ds.rfootOf c.depStop)
    (hft : f.time ≤ cx.p.maxTransfer) (hn : 0 ≤ f.time) :
    c.dep - f.time - c.effWait cx.p.minWait ≤ (revBoard cx single s c).lab f.stop := by
  rw [revBoard_eq, if_pos ⟨hcb, hex⟩]
  exact foldl_of_mem (fun _ => True) (fun s => c.dep - f.time - c.effWait cx.p.minWait ≤ s.lab f.stop) (fun _ _ _ => trivial)
    (fun s _ => revFoot_lab cx c _ s f hft hn) (fun s g h => Int.le_trans h ((revFoot_better cx c s g).lab _)) _ _ hf trivial

theorem revBoard_acc (hcb : c.canBoard = true) (hex : (s.exitC c.trip).isSome = true) (hf : f ∈ cx.ds.rfootOf c.depStop)
    (hft : f.time ≤ cx.p.maxTransfer) (hs : f.stop = c.depStop) (hok : AccOK cx c) (hwf : AccWF s) :
    AccGe cx (revBoard cx single s c) c.depStop (c.dep - c.effWait cx.p.minWait) := by
  rw [revBoard_eq, if_pos ⟨hcb, hex⟩]
  exact foldl_of_mem AccWF (fun s => AccGe cx s c.depStop (c.dep - c.effWait cx.p.minWait))
    (fun s g => (revFoot_acc_src cx c _ s g).accWF) (fun s => revFoot_acc cx c s f hft hs hok)
    (fun s g => (revFoot_better cx c s g).acc _ _) _ _ hf (hwf.of_acc_eq (revMark_acc cx single s c))

end

theorem revStep_better (cx : Ctx) (usable : Nat → Bool) (single : Bool) (s : RState) (c : Conn) (hwf : AccWF s) :
    RBetter cx s (revStep cx usable single s c) ∧ AccWF (revStep cx usable single s c) := by
  rcases revStep_branch cx usable single s c with h1 | ⟨h1, _⟩ | ⟨_, _, h1⟩
  · rw [h1]; exact ⟨RBetter.refl cx s, hwf⟩
  · rw [h1]; exact ⟨⟨fun _ => Int.le_refl _, fun _ h => h, fun _ _ h => h⟩, hwf⟩
  · rw [h1]
    obtain ⟨h2, h3, _⟩ := revBoard_better cx single (revUnboard cx s c) c (hwf.of_acc_eq (revUnboard_acc cx s c))
    have := RBetter.trans (revUnboard_better cx s c) h2
    exact ⟨⟨this.lab, this.exit, this.acc⟩, h3⟩

def UnboardP (cx : Ctx) (P : List Conn) (x : Conn) : Prop :=
  x.canUnboard = true ∧ cx.disabled x.trip = false ∧ ∃ t, RReach cx P x.arrStop t ∧ x.arr ≤ t

structure RC (cx : Ctx) (P : List Conn) (s : RState) : Prop where
  lab : ∀ y t, RReach cx P y t → cx.arrT - t ≤ cx.p.maxTotal → t ≤ s.lab y
  exit : ∀ x ∈ P, UnboardP cx P x → cx.arrT - x.arr ≤ cx.p.maxTotal → (s.exitC x.trip).isSome = true
  acc : ∀ e ∈ P, ∀ x ∈ P, UnboardP cx P x → e.trip = x.trip → e.seq ≤ x.seq → e.canBoard = true → AccOK cx e →
    cx.arrT - e.arr ≤ cx.p.maxTotal → AccGe cx s e.depStop (e.dep - e.effWait cx.p.minWait)
  stop : s.stop = true → ∃ c0 ∈ P, cx.arrT - c0.arr > cx.p.maxTotal
  accWF : ∀ y js, s.acc y = some js → ∃ e, js.enter = some e

/-- the invariant relative to a cut line `θ`: nothing that arrives before `θ` is claimed. `RC` is the case
    `θ = cx.arrT - cx.p.maxTotal`; the single calculation moves the line up once an access stop is reached. -/
structure RCore (cx : Ctx) (θ : Int) (P : List Conn) (s : RState) : Prop where
  lab : ∀ y t, RReach cx P y t → θ ≤ t → t ≤ s.lab y
  exit : ∀ x ∈ P, UnboardP cx P x → θ ≤ x.arr → (s.exitC x.trip).isSome = true
  acc : ∀ e ∈ P, ∀ x ∈ P, UnboardP cx P x → e.trip = x.trip → e.seq ≤ x.seq → e.canBoard = true → AccOK cx e →
    θ ≤ e.arr → AccGe cx s e.depStop (e.dep - e.effWait cx.p.minWait)
  stop : s.stop = true → ∃ c0 ∈ P, c0.arr < θ
  accWF : AccWF s

theorem RC_iff_core {cx : Ctx} {P : List Conn} {s : RState} : RC cx P s ↔ RCore cx (cx.arrT - cx.p.maxTotal) P s := by
  -- clause by clause the two differ in the side of the inequality `max_travel_time` stands on
  constructor <;> intro h <;>
  exact ⟨fun y t hr ht => h.lab y t hr (by omega), fun x hx hu hd => h.exit x hx hu (by omega),
    fun e he x hx hu ht hs hcb hok hd => h.acc e he x hx hu ht hs hcb hok (by omega),
    fun hst => let ⟨c0, hc0, hl⟩ := h.stop hst; ⟨c0, hc0, by omega⟩, h.accWF⟩

theorem UnboardP.strengthen {cx : Ctx} {L P : List Conn} {c x : Conn} (w : RW cx L) (hP : ∀ a ∈ P ++ [c], a ∈ L)
    (h : UnboardP cx (P ++ [c]) x) (hx : c.arr ≤ x.arr) : UnboardP cx P x := by
  obtain ⟨h1, h2, t, hr, ht⟩ := h
  exact ⟨h1, h2, t, hr.strengthen w hP (by omega), ht⟩

theorem ride_scanned_rev {cx : Ctx} {L0 L P : List Conn} (w : RW cx L0) (hL : ∀ a ∈ L, a ∈ L0)
    (hP : ∀ a ∈ L, a.arr ≤ cx.arrT → a ∈ P) {e x : Conn} (he : e ∈ L) (hx : x ∈ L) (hu : UnboardP cx L x)
    (ht : e.trip = x.trip) (hs : e.seq ≤ x.seq) :
    e ∈ P ∧ x ∈ P ∧ UnboardP cx P x ∧ e.dep < e.arr ∧ e.arr ≤ x.arr ∧ x.arr ≤ cx.arrT := by
  obtain ⟨hcu, hdis, t, hr, hrt⟩ := hu
  have hle := hr.time_le w hL
  have ham := w.arrMono e (hL e he) x (hL x hx) ht hs
  exact ⟨hP e he (by omega), hP x hx (by omega), ⟨hcu, hdis, t, hr.sub w hL fun a ha _ => hP a ha, hrt⟩,
    w.posHop e (hL e he), ham, by omega⟩

theorem init_RCore (cx : Ctx) (θ : Int) (hnd : (cx.egressFoot.map (·.stop)).Nodup) : RCore cx θ [] (RState.init cx) := by
  refine ⟨?_, ?_, ?_, ?_, ?_⟩
  · intro y t h _
    cases h with
    | egress g hg => rw [init_lab_egress hnd hg]; exact Int.le_refl _
    | ride z t e x f _ he => cases he
  · intro x hx; cases hx
  · intro e he; cases he
  · intro h; simp [RState.init] at h
  · intro y js h; simp [RState.init] at h

theorem init_RC (cx : Ctx) (hnd : (cx.egressFoot.map (·.stop)).Nodup) : RC cx [] (RState.init cx) :=
  RC_iff_core.2 (init_RCore cx _ hnd)

/-- were `x = c`, then `e` would be a connection of `c`'s trip, no further along and scanned earlier, hence `c` itself -/
theorem ride_before_rev {cx : Ctx} {L P : List Conn} {c e x : Conn} (w : RW cx L) (hP : ∀ a ∈ P ++ [c], a ∈ L)
    (hbefore : ∀ a ∈ P, revLt c a = false) (he : e ∈ P ++ [c]) (hx : x ∈ P ++ [c]) (ht : e.trip = x.trip)
    (hs : e.seq ≤ x.seq) (hec : e ≠ c) : e ∈ P ∧ x ∈ P := by
  have heP := mem_of_mem_snoc_ne he hec
  refine ⟨heP, mem_of_mem_snoc_ne hx ?_⟩
  rintro rfl
  have heL := hP e he
  exact hec (w.unique e heL x (hP x hx) ht
    (Nat.le_antisymm hs (seq_le_of_sorted w.arrMono (hP x hx) heL ht (hbefore e heP))))

theorem revStep_ride (single : Bool) {cx : Ctx} {L P : List Conn} {s : RState} {c : Conn} {θ : Int} (w : RW cx L)
    (hP : ∀ a ∈ P ++ [c], a ∈ L) (hbefore : ∀ a ∈ P, revLt c a = false) (hθ1 : cx.arrT - cx.p.maxTotal ≤ θ)
    (hθ2 : single = true → s.reached = true → cx.maxAccess ≥ 0 → s.tentAccDep - cx.maxAccess - cx.p.minWait ≤ θ)
    (h : RCore cx θ P s) {x : Conn} (hx : x ∈ P ++ [c]) (hu : UnboardP cx (P ++ [c]) x) (ht : c.trip = x.trip)
    (hs : c.seq ≤ x.seq) (hc : θ ≤ c.arr) :
    revStep cx (fun _ => true) single s c =
      { revBoard cx single (revUnboard cx s c) c with count := (revBoard cx single (revUnboard cx s c) c).count + 1 } ∧
    ((revUnboard cx s c).exitC c.trip).isSome = true := by
  have hPL : ∀ a ∈ P, a ∈ L := fun a ha => hP a (List.mem_append_left _ ha)
  have hxa : c.arr ≤ x.arr := w.arrMono c (hP c (by simp)) x (hP x hx) ht hs
  obtain ⟨hcu, hdis, t, hr, hrt⟩ := hu.strengthen w hP hxa
  have hle : t ≤ cx.arrT - (if single = true then cx.minEgress else 0) := hr.time_le_sub w hPL (by
    intro g hg; split
    · exact minTime_le _ g hg
    · exact w.egrNonneg g hg)
  have hns : s.stop = false := by
    cases hst : s.stop with
    | false => rfl
    | true =>
      obtain ⟨c0, hc0, hlate⟩ := h.stop hst
      have := (revLt_false (hbefore c0 hc0)).1
      omega
  have hmain := revStep_main cx (fun _ => true) single s c hns (by omega) rfl (by rw [ht]; exact hdis) (by omega)
    (fun h1 ⟨hr1, hr2, hr3⟩ => by have := hθ2 h1 hr1 hr2; omega)
  rcases List.mem_append.mp hx with hxP | hxC
  · have hex : (s.exitC c.trip).isSome = true := by rw [ht]; exact h.exit x hxP ⟨hcu, hdis, t, hr, hrt⟩ (by omega)
    exact ⟨hmain (Or.inl hex), (revUnboard_better cx s c).exit _ hex⟩
  · cases List.mem_singleton.1 hxC
    exact ⟨hmain (Or.inr (by have := h.lab _ _ hr (by omega); omega)), revUnboard_exit cx s c hcu⟩

/-- `hθ1`: the cut line is not below the one of max_travel_time; `hθ2`: nor below the one of the early break of a
    single calculation -/
theorem revStep_RCore (single : Bool) {cx : Ctx} {L P : List Conn} {s : RState} {c : Conn} {θ : Int} (w : RW cx L)
    (hP : ∀ a ∈ P ++ [c], a ∈ L) (hbefore : ∀ a ∈ P, revLt c a = false) (hθ1 : cx.arrT - cx.p.maxTotal ≤ θ)
    (hθ2 : single = true → s.reached = true → cx.maxAccess ≥ 0 → s.tentAccDep - cx.maxAccess - cx.p.minWait ≤ θ)
    (h : RCore cx θ P s) : RCore cx θ (P ++ [c]) (revStep cx (fun _ => true) single s c) := by
  have hcL : c ∈ L := hP c (by simp)
  have harrP : ∀ a ∈ P, c.arr ≤ a.arr := fun a ha => (revLt_false (hbefore a ha)).1
  have hmain := @revStep_ride single cx L P s c θ w hP hbefore hθ1 hθ2 h
  obtain ⟨hbet, hwf'⟩ := revStep_better cx (fun _ => true) single s c h.accWF
  have hwfu : AccWF (revUnboard cx s c) := h.accWF.of_acc_eq (revUnboard_acc cx s c)
  have hboard := revBoard_better cx single (revUnboard cx s c) c hwfu
  refine ⟨?_, ?_, ?_, ?_, hwf'⟩
  · intro y t hr ht
    cases hr with
    | egress g hg => exact Int.le_trans (h.lab _ _ (RReach.egress g hg) ht) (hbet.lab _)
    | ride z tz e x f hsub he hx h1 h2 h3 h4 h5 h6 h7 h8 h9 =>
      have hphe := w.posHop e (hP e he)
      have hfn := w.footNonneg _ f h8
      have hw := effWait_nonneg e cx.p.minWait w.mw
      by_cases hec : e = c
      · subst hec
        obtain ⟨hm, hex⟩ := hmain hx ⟨h6, by rw [← h3]; exact h7, tz, by rw [h1]; exact hsub, h2⟩ h3 h4 (by omega)
        rw [hm]
        exact revBoard_lab h5 hex h8 h9 hfn
      · obtain ⟨heP, hxP⟩ := ride_before_rev w hP hbefore he hx h3 h4 hec
        have hxa := harrP x hxP
        have hsubP := hsub.strengthen w hP (by omega)
        exact Int.le_trans (h.lab _ _ (RReach.ride z tz e x f hsubP heP hxP h1 h2 h3 h4 h5 h6 h7 h8 h9) ht) (hbet.lab _)
  · intro x hx hu hd
    rcases List.mem_append.mp hx with hxP | hxC
    · exact hbet.exit _ (h.exit x hxP (hu.strengthen w hP (harrP x hxP)) hd)
    · cases List.mem_singleton.1 hxC
      obtain ⟨hm, hex⟩ := hmain hx hu rfl (Nat.le_refl _) hd
      rw [hm]
      exact hboard.1.exit _ hex
  · intro e he x hx hu ht hs hcb hok hd
    by_cases hec : e = c
    · subst hec
      obtain ⟨hm, hex⟩ := hmain hx hu ht hs hd
      obtain ⟨f0, hf0, hf0s, hf0t⟩ := w.selfFoot e hcL
      rw [hm]
      exact revBoard_acc hcb hex hf0 hf0t hf0s hok hwfu
    · obtain ⟨heP, hxP⟩ := ride_before_rev w hP hbefore he hx ht hs hec
      exact hbet.acc _ _ (h.acc e heP x hxP (hu.strengthen w hP (harrP x hxP)) ht hs hcb hok hd)
  · intro hst
    rcases revStep_branch cx (fun _ => true) single s c with h1 | ⟨_, h1⟩ | ⟨h0, _, h1⟩
    · rw [h1] at hst
      obtain ⟨c0, hc0, hl⟩ := h.stop hst
      exact ⟨c0, List.mem_append_left _ hc0, hl⟩
    · refine ⟨c, by simp, ?_⟩
      rcases h1 with ⟨hs1, hr1, hr2, hr3⟩ | h1
      · have := hθ2 hs1 hr1 hr2; omega
      · omega
    · rw [h1] at hst
      have : (revBoard cx single (revUnboard cx s c) c).stop = true := hst
      rw [hboard.2.2, revUnboard_stop, h0] at this
      cases this

theorem revStep_RC {cx : Ctx} {L P : List Conn} {s : RState} {c : Conn} (w : RW cx L)
    (hP : ∀ a ∈ P ++ [c], a ∈ L) (hbefore : ∀ a ∈ P, revLt c a = false) (h : RC cx P s) :
    RC cx (P ++ [c]) (revStep cx (fun _ => true) false s c) :=
  RC_iff_core.2 (revStep_RCore false w hP hbefore (Int.le_refl _) (fun h => by cases h) (RC_iff_core.1 h))

theorem revScanList_RC {cx : Ctx} {L : List Conn} (w : RW cx L) :
    ∀ (post pre : List Conn) (s : RState), (∀ a ∈ pre ++ post, a ∈ L) → SortedRev (pre ++ post) →
      RC cx pre s → RC cx (pre ++ post) (post.foldl (revStep cx (fun _ => true) false) s) := by
  intro post pre s hC hs h
  exact foldl_prefix_inv (· ∈ L) (fun a c => revLt c a = false) (fun _ => True) (RC cx) (fun _ _ _ => trivial)
    (fun pre c s hM hR _ h => revStep_RC w hM hR h) post pre s hC hs trivial h

end Tr
