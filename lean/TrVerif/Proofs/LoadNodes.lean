/-
  Proofs/LoadNodes — round trip of the stop files: `getNodes (encode ds)` builds, for every stop,
  the footpath vector of the dataset and the reverse vector in the order the loader creates it
  (stops in uuid order, each stop's own footpaths in file order, then the `(self, 0, 0)` entry
  that `nodes_cache_fetcher.cpp` appends).
-/
import TrVerif.Proofs.LoadColl
namespace Tr.Load

theorem mkNodes_has (n : Nat) (F : Nat → LNode) (j : Nat) : (mkNodes n F).has (K 1 j) = decide (j < n) := by
  unfold mkNodes; rw [expFrom_has]; simp

theorem mkNodes_modify (n : Nat) (F : Nat → LNode) (f : LNode → LNode) (v : Nat) :
    (mkNodes n F).modify (K 1 v) f = mkNodes n (fun b => if b = v then f (F b) else F b) := by
  unfold mkNodes; rw [expFrom_modify]

theorem footLoop_enc (n i : Nat) : ∀ (l : List NTD) (acc : List NTDu) (F : Nat → LNode), (∀ x ∈ l, x.stop < n ∧ 0 ≤ x.time) →
    footLoop (K 1 i) (l.map fun x => UTok.id (K 1 x.stop)) (l.map (·.time)) (l.map (·.dist)) acc (mkNodes n F) =
      (false, acc ++ l.map liftNTD,
       mkNodes n (fun b => { F b with rfoot := (F b).rfoot ++ ((l.filter (fun x => x.stop = b)).map fun x => (⟨K 1 i, x.time, x.dist⟩ : NTDu)) })) := by
  intro l
  induction l with
  | nil =>
    intro acc F _
    simp only [List.map_nil, footLoop, List.append_nil, List.filter_nil]
  | cons x l ih =>
    intro acc F h
    have hx := h x (by simp)
    simp only [List.map_cons, footLoop, UTok.parse]
    rw [mkNodes_has, if_neg (by simpa using hx.1), if_neg (by omega), mkNodes_modify,
      ih _ _ (fun y hy => h y (List.mem_cons_of_mem _ hy))]
    refine Prod.ext rfl (Prod.ext ?_ ?_)
    · simp [liftNTD]
    · simp only
      congr 1
      funext b
      by_cases hb : b = x.stop
      · subst hb; simp
      · have : ¬ x.stop = b := fun e => hb e.symm
        simp [hb, this]

theorem nodeFiles_lookup (ds : Dataset) : ∀ (n j i : Nat),
    lookupFile (nodeFilesFrom ds j n) (K 1 i) = if j ≤ i ∧ i < j + n then some (some (encFootFile ds i)) else none :=
  filesFrom_lookup 1 (nodeFilesFrom ds) (fun i => some (encFootFile ds i)) (fun _ => rfl) (fun _ _ => rfl)

theorem rfootUpTo_succ (ds : Dataset) (i b : Nat) : rfootUpTo ds (i+1) b = rfootUpTo ds i b ++ rcontrib ds i b := by
  simp [rfootUpTo, List.range_succ, List.flatMap_append]

theorem nodeLoop_enc (ds : Dataset) (n : Nat) (hfoot : ∀ a, ∀ x ∈ ds.footOf a, x.stop < n ∧ 0 ≤ x.time) :
    ∀ (m i : Nat), i + m = n →
      nodeLoop (nodeFilesFrom ds 0 n) ((List.range' i m).map (K 1)) (mkNodes n (nodeAt ds i)) = (0, mkNodes n (nodeAt ds n))
  | 0, i, h => by
    have : i = n := by omega
    subst this; simp [nodeLoop]
  | m+1, i, h => by
    simp only [List.range'_succ, List.map_cons]
    rw [nodeLoop, nodeFiles_lookup, if_pos (by omega)]
    simp only [encFootFile, List.length_map, Nat.lt_irrefl, or_self, if_false]
    rw [footLoop_enc n i (ds.footOf i) [] _ (hfoot i)]
    simp only [List.nil_append]
    rw [mkNodes_modify]
    -- the file of stop `i` has been read: every stop is as `nodeAt ds (i+1)` describes it
    refine Eq.trans (congrArg (fun F => nodeLoop _ _ (mkNodes n F)) (funext fun b => ?_)) (nodeLoop_enc ds n hfoot m (i+1) (by omega))
    by_cases hb : b = i
    · subst hb
      simp [nodeAt, rfootUpTo_succ, rcontrib]
    · have h1 : (b < i + 1) = (b < i) := by apply propext; omega
      have h2 : ¬ i = b := fun e => hb e.symm
      simp [nodeAt, rfootUpTo_succ, rcontrib, hb, h1, h2]

theorem nodesCollLoop_enc (n : Nat) :
    nodesCollLoop (idsFrom 1 0 n) [] = (0, expFrom 1 (fun _ _ => ({} : LNode)) 0 (List.replicate n ())) := by
  have h := loop_enc 1 nodesCollLoop (fun i l => idsFrom 1 i l.length) (fun _ _ => ({} : LNode)) (fun _ => True) (fun _ _ => rfl)
    (fun i _ xs m _ h => by rw [List.length_cons, idsFrom, nodesCollLoop]; simp only [UTok.parse]; rw [Map.emplace_last m _ _ h])
    (List.replicate n ()) (fun _ _ => trivial)
  rwa [List.length_replicate] at h

theorem footOf_inRange (ds : Dataset) (n : Nat) (h : ∀ f ∈ ds.foot, f.a < n ∧ f.b < n ∧ 0 ≤ f.time) :
    ∀ a, ∀ x ∈ ds.footOf a, x.stop < n ∧ 0 ≤ x.time := by
  intro a x hx
  simp only [Dataset.footOf, List.mem_filterMap] at hx
  obtain ⟨f, hf, hfx⟩ := hx
  split at hfx
  · simp only [Option.some.injEq] at hfx; subst hfx; exact ⟨(h f hf).2.1, (h f hf).2.2⟩
  · simp at hfx

theorem getNodes_enc (ds : Dataset) (h : ∀ f ∈ ds.foot, f.a < ds.nStops ∧ f.b < ds.nStops ∧ 0 ≤ f.time) :
    getNodes (encode ds) = (0, expNodes ds) := by
  unfold getNodes
  simp only [encode]
  rw [nodesCollLoop_enc]
  simp only
  have e0 : expFrom 1 (fun _ _ => ({} : LNode)) 0 (List.replicate ds.nStops ()) = mkNodes ds.nStops (nodeAt ds 0) :=
    congrArg (expFrom 1 · 0 _) (funext fun b => by simp [nodeAt, rfootUpTo])
  rw [e0]
  have hk : (mkNodes ds.nStops (nodeAt ds 0)).keys = (List.range' 0 ds.nStops).map (K 1) := by
    unfold mkNodes; rw [expFrom_keys]; simp
  rw [hk]
  exact nodeLoop_enc ds ds.nStops (footOf_inRange ds ds.nStops h) ds.nStops 0 (by omega)

end Tr.Load
