/-
  TrVerif.Proofs.ReverseSingle — completeness of the reverse scan of a SINGLE calculation
  (`single = true`): the extra filter on the shortest egress walk and the extra break once an
  access stop has been reached. The invariant is `RCore` of `ReverseComplete`, relative to a cut
  line `θ` (nothing that arrives before `θ` is claimed), plus the count, the reached mark and the
  origin of the kept boardings. `θ` is chosen from the final state
  (`max_travel_time`, and - once an access stop is reached - its departure minus the longest
  access walk and the minimum waiting time); states along the scan agree with the final one on
  that (`revStep1_frozen`). Then the selection of the best access stop (`bestAccess_ge`).
-/
import TrVerif.Proofs.ReverseComplete
namespace Tr

structure RCθ (cx : Ctx) (θ : Int) (P : List Conn) (s : RState) : Prop where
  lab : ∀ y t, RReach cx P y t → θ ≤ t → t ≤ s.lab y
  exit : ∀ x ∈ P, UnboardP cx P x → θ ≤ x.arr → (s.exitC x.trip).isSome = true
  acc : ∀ e ∈ P, ∀ x ∈ P, UnboardP cx P x → e.trip = x.trip → e.seq ≤ x.seq → e.canBoard = true → AccOK cx e →
    θ ≤ e.arr → AccGe cx s e.depStop (e.dep - e.effWait cx.p.minWait) ∧ 1 ≤ s.count
  stop : s.stop = true → ∃ c0 ∈ P, c0.arr < θ
  accWF : ∀ y js, s.acc y = some js → ∃ e, js.enter = some e
  /-- once an access stop is reached: by a boarding at a stop the router offers, kept at least as late -/
  reach : s.reached = true → ∃ c1 ∈ P, c1.dep = s.tentAccDep ∧ (∃ a1, cx.nodesAccess c1.depStop = some a1) ∧
    (AccOK cx c1 → AccGe cx s c1.depStop (c1.dep - c1.effWait cx.p.minWait)) ∧ 1 ≤ s.count
  accMem : ∀ y js e, s.acc y = some js → js.enter = some e → e ∈ P

theorem RCθ.core {cx : Ctx} {θ : Int} {P : List Conn} {s : RState} (h : RCθ cx θ P s) : RCore cx θ P s :=
  ⟨h.lab, h.exit, fun e he x hx hu ht hs hcb hok hd => (h.acc e he x hx hu ht hs hcb hok hd).1, h.stop, h.accWF⟩

theorem init_RCθ (cx : Ctx) (θ : Int) (hnd : (cx.egressFoot.map (·.stop)).Nodup) : RCθ cx θ [] (RState.init cx) := by
  have h := init_RCore cx θ hnd
  refine ⟨h.lab, h.exit, ?_, h.stop, h.accWF, ?_, ?_⟩
  · intro e he; cases he
  · intro h; simp [RState.init] at h
  · intro y js e h; simp [RState.init] at h

theorem revUnboard_misc (cx : Ctx) (s : RState) (c : Conn) :
    (revUnboard cx s c).reached = s.reached ∧ (revUnboard cx s c).tentAccDep = s.tentAccDep ∧
    (revUnboard cx s c).count = s.count := by
  unfold revUnboard; split <;> exact ⟨rfl, rfl, rfl⟩

theorem revBoard_count (cx : Ctx) (single : Bool) (s : RState) (c : Conn) : (revBoard cx single s c).count = s.count := by
  rw [revBoard_eq]
  split
  · rw [revFoot_fold_keeps (·.count) (fun _ _ _ _ => rfl), revMark_frame]
  · rfl

theorem revStep_count_le (cx : Ctx) (usable : Nat → Bool) (single : Bool) (s : RState) (c : Conn) :
    s.count ≤ (revStep cx usable single s c).count := by
  rcases revStep_branch cx usable single s c with h | ⟨h, _⟩ | ⟨_, _, h⟩
  · rw [h]; exact Nat.le_refl _
  · rw [h]; exact Nat.le_refl _
  · rw [h]
    show s.count ≤ (revBoard cx single (revUnboard cx s c) c).count + 1
    rw [revBoard_count, (revUnboard_misc cx s c).2.2]; omega

theorem revBoard_reached (cx : Ctx) (single : Bool) (s : RState) (c : Conn) :
    ((revBoard cx single s c).reached = s.reached ∧ (revBoard cx single s c).tentAccDep = s.tentAccDep) ∨
    (s.reached = false ∧ (c.canBoard = true ∧ (s.exitC c.trip).isSome = true) ∧
      (∃ a1, cx.nodesAccess c.depStop = some a1) ∧
      (revBoard cx single s c).reached = true ∧ (revBoard cx single s c).tentAccDep = c.dep) := by
  rw [revBoard_eq]
  split
  · next hc =>
    rw [revFoot_fold_keeps (·.reached) (fun _ _ _ _ => rfl), revFoot_fold_keeps (·.tentAccDep) (fun _ _ _ _ => rfl)]
    unfold revMark
    split
    · next hm =>
      refine Or.inr ⟨by simpa using hm.2.1, hc, ?_, rfl, rfl⟩
      cases hna : cx.nodesAccess c.depStop with
      | none => rw [hna] at hm; simp at hm
      | some a1 => exact ⟨a1, rfl⟩
    · exact Or.inl ⟨rfl, rfl⟩
  · exact Or.inl ⟨rfl, rfl⟩

theorem revStep_reached (cx : Ctx) (usable : Nat → Bool) (single : Bool) (s : RState) (c : Conn) :
    ((revStep cx usable single s c).reached = s.reached ∧ (revStep cx usable single s c).tentAccDep = s.tentAccDep) ∨
    (s.reached = false ∧ (revStep cx usable single s c).reached = true ∧ (revStep cx usable single s c).tentAccDep = c.dep ∧
      (c.canBoard = true ∧ ((revUnboard cx s c).exitC c.trip).isSome = true) ∧ (∃ a1, cx.nodesAccess c.depStop = some a1) ∧
      revStep cx usable single s c =
        { revBoard cx single (revUnboard cx s c) c with count := (revBoard cx single (revUnboard cx s c) c).count + 1 }) := by
  rcases revStep_branch cx usable single s c with h | ⟨h, _⟩ | ⟨_, _, h⟩
  · rw [h]; exact Or.inl ⟨rfl, rfl⟩
  · rw [h]; exact Or.inl ⟨rfl, rfl⟩
  · have hum := revUnboard_misc cx s c
    rcases revBoard_reached cx single (revUnboard cx s c) c with ⟨h1, h2⟩ | ⟨h0, hc, hna, h1, h2⟩
    · rw [h]; exact Or.inl ⟨h1.trans hum.1, h2.trans hum.2.1⟩
    · exact Or.inr ⟨hum.1 ▸ h0, by rw [h]; exact h1, by rw [h]; exact h2, hc, hna, h⟩

theorem revStep_acc_src (cx : Ctx) (usable : Nat → Bool) (single : Bool) (s : RState) (c : Conn) :
    AccSrc c s (revStep cx usable single s c) := by
  rcases revStep_branch cx usable single s c with h1 | ⟨h1, _⟩ | ⟨_, _, h1⟩
  · rw [h1]; exact fun _ _ h => Or.inr h
  · rw [h1]; exact fun _ _ h => Or.inr h
  · rw [h1]
    show AccSrc c s (revBoard cx single (revUnboard cx s c) c)
    rw [revBoard_eq]
    split
    · intro y js h
      refine (revFoot_fold_acc_src cx c _ _ _ y js h).imp_right fun h2 => ?_
      rwa [revMark_acc, revUnboard_acc] at h2
    · intro y js h; rw [revUnboard_acc] at h; exact Or.inr h

theorem revStep1_RCθ {cx : Ctx} {L P : List Conn} {s : RState} {c : Conn} {θ : Int} (w : RW cx L)
    (hP : ∀ a ∈ P ++ [c], a ∈ L) (hbefore : ∀ a ∈ P, revLt c a = false)
    (hθ1 : cx.arrT - cx.p.maxTotal ≤ θ)
    (hθ2 : s.reached = true → cx.maxAccess ≥ 0 → s.tentAccDep - cx.maxAccess - cx.p.minWait ≤ θ)
    (h : RCθ cx θ P s) :
    RCθ cx θ (P ++ [c]) (revStep cx (fun _ => true) true s c) := by
  have hk := revStep_RCore true w hP hbefore hθ1 (fun _ => hθ2) h.core
  have hbet := (revStep_better cx (fun _ => true) true s c h.accWF).1
  have hmonoP : ∀ a ∈ P, a ∈ P ++ [c] := fun a ha => List.mem_append_left _ ha
  refine ⟨hk.lab, hk.exit, ?_, hk.stop, hk.accWF, ?_, ?_⟩
  · -- the count: a ride that boards `c` is handled now, any other was counted before
    intro e he x hx hu ht hs hcb hok hd
    refine ⟨hk.acc e he x hx hu ht hs hcb hok hd, ?_⟩
    by_cases hec : e = c
    · subst hec
      rw [(revStep_ride true w hP hbefore hθ1 (fun _ => hθ2) h.core hx hu ht hs hd).1]
      exact Nat.le_add_left _ _
    · obtain ⟨heP, hxP⟩ := ride_before_rev w hP hbefore he hx ht hs hec
      exact Nat.le_trans (h.acc e heP x hxP (hu.strengthen w hP (revLt_false (hbefore x hxP)).1) ht hs hcb hok hd).2
        (revStep_count_le cx _ true s c)
  · intro hre
    rcases revStep_reached cx (fun _ => true) true s c with ⟨h1, h2⟩ | ⟨_, _, h2, hcond, hna, hm⟩
    · obtain ⟨c1, hc1, a, b, d, n⟩ := h.reach (h1 ▸ hre)
      exact ⟨c1, hmonoP c1 hc1, a.trans h2.symm, b, fun hok => hbet.acc _ _ (d hok),
        Nat.le_trans n (revStep_count_le cx _ true s c)⟩
    · obtain ⟨f0, hf0, hf0s, hf0t⟩ := w.selfFoot c (hP c (by simp))
      refine ⟨c, by simp, h2.symm, hna, fun hok => ?_, ?_⟩ <;> rw [hm]
      · exact revBoard_acc hcond.1 hcond.2 hf0 hf0t hf0s hok (AccWF.of_acc_eq h.accWF (revUnboard_acc cx s c))
      · exact Nat.le_add_left 1 _
  · intro y js e hj he
    rcases revStep_acc_src cx (fun _ => true) true s c y js hj with h1 | h1
    · rw [he] at h1; cases h1; simp
    · exact hmonoP e (h.accMem y js e h1 he)

theorem revStep1_frozen (cx : Ctx) (s : RState) (c : Conn) (h : s.reached = true) :
    (revStep cx (fun _ => true) true s c).reached = true ∧ (revStep cx (fun _ => true) true s c).tentAccDep = s.tentAccDep := by
  rcases revStep_reached cx (fun _ => true) true s c with ⟨h1, h2⟩ | ⟨h0, _⟩
  · exact ⟨h1.trans h, h2⟩
  · rw [h] at h0; cases h0

theorem revFold1_frozen (cx : Ctx) : ∀ (l : List Conn) (s : RState), s.reached = true →
    (l.foldl (revStep cx (fun _ => true) true) s).reached = true ∧
    (l.foldl (revStep cx (fun _ => true) true) s).tentAccDep = s.tentAccDep := by
  intro l s h
  refine foldl_inv (fun t : RState => t.reached = true ∧ t.tentAccDep = s.tentAccDep) (fun t c _ ht => ?_) ⟨h, rfl⟩
  obtain ⟨a, b⟩ := revStep1_frozen cx t c ht.1
  exact ⟨a, b.trans ht.2⟩

theorem revScanList1_RCθ {cx : Ctx} {L : List Conn} (w : RW cx L) (θ : Int) (hθ1 : cx.arrT - cx.p.maxTotal ≤ θ) :
    ∀ (post pre : List Conn) (s : RState), (∀ a ∈ pre ++ post, a ∈ L) → SortedRev (pre ++ post) →
      RCθ cx θ pre s →
      ((post.foldl (revStep cx (fun _ => true) true) s).reached = true → cx.maxAccess ≥ 0 →
        (post.foldl (revStep cx (fun _ => true) true) s).tentAccDep - cx.maxAccess - cx.p.minWait ≤ θ) →
      RCθ cx θ (pre ++ post) (post.foldl (revStep cx (fun _ => true) true) s) := by
  intro post pre s hC hs h hfin
  -- the cut line is read off the final state; earlier states that are "reached" agree with it
  refine foldl_prefix_inv (· ∈ L) (fun a c => revLt c a = false)
    (fun t : RState => t.reached = true → cx.maxAccess ≥ 0 → t.tentAccDep - cx.maxAccess - cx.p.minWait ≤ θ) (RCθ cx θ)
    (fun t c hQ hr hm => ?_) (fun pre c t hM hR hQ h => revStep1_RCθ w hM hR hθ1 hQ h) post pre s hC hs hfin h
  obtain ⟨a, b⟩ := revStep1_frozen cx t c hr
  rw [← b]; exact hQ a hm

def bestAccessStep (cx : Ctx) (s : RState) (acc : Int × Option Nat) (a : NTD) : Int × Option Nat :=
  match s.acc a.stop with
  | some js => match js.enter, cx.nodesAccess a.stop with
    | some e, some ac =>
      let t := e.dep - ac.time - e.effWait cx.p.minWait
      if t ≥ 0 ∧ cx.arrT - t ≤ cx.p.maxTotal ∧ t > acc.1 ∧ t < MAX_INT then (t, some ac.stop) else acc
    | _, _ => acc
  | none => acc

theorem bestAccess_fold (cx : Ctx) (s : RState) : bestAccess cx s =
    (cx.accessFoot.foldl (bestAccessStep cx s) (-1, none) |> fun r => r.2.map fun st => (r.1, st)) := rfl

theorem bestAccess_ge {cx : Ctx} {s : RState} (hnd : (cx.accessFoot.map (·.stop)).Nodup) {a0 : NTD} (ha0 : a0 ∈ cx.accessFoot)
    {b : Int} (hacc : AccGe cx s a0.stop b) (h0 : 0 ≤ b - a0.time) (hT : cx.arrT - (b - a0.time) ≤ cx.p.maxTotal)
    (hbound : ∀ y js e, s.acc y = some js → js.enter = some e → e.dep < MAX_INT) (hw : 0 ≤ cx.p.minWait)
    (haccNonneg : ∀ a ∈ cx.accessFoot, 0 ≤ a.time) :
    ∃ bd node, bestAccess cx s = some (bd, node) ∧ b - a0.time ≤ bd := by
  obtain ⟨js0, e0, hj0, he0, hb0⟩ := hacc
  have hna0 : cx.nodesAccess a0.stop = some a0 := nodes_find_nodup hnd ha0
  -- the running best never decreases, and names a stop once its time is not negative
  have hstep : ∀ (acc : Int × Option Nat) (a : NTD), (0 ≤ acc.1 → acc.2.isSome = true) →
      (0 ≤ (bestAccessStep cx s acc a).1 → (bestAccessStep cx s acc a).2.isSome = true) ∧
      acc.1 ≤ (bestAccessStep cx s acc a).1 := by
    intro acc a hI
    unfold bestAccessStep
    split
    · split
      · dsimp only
        split
        · next hc => exact ⟨fun _ => rfl, Int.le_of_lt hc.2.2.1⟩
        · exact ⟨hI, Int.le_refl _⟩
      · exact ⟨hI, Int.le_refl _⟩
    · exact ⟨hI, Int.le_refl _⟩
  -- at `a0` every test but "later than the running best" passes
  have hhit : ∀ acc, b - a0.time ≤ (bestAccessStep cx s acc a0).1 := by
    intro acc
    have hlt := hbound _ _ _ hj0 he0
    have hwe := effWait_nonneg e0 cx.p.minWait hw
    have hat := haccNonneg a0 ha0
    unfold bestAccessStep
    simp only [hj0, he0, hna0]
    split
    · show b - a0.time ≤ e0.dep - a0.time - e0.effWait cx.p.minWait
      omega
    · next hc =>
      by_cases hgt : e0.dep - a0.time - e0.effWait cx.p.minWait > acc.1
      · exact absurd ⟨by omega, by omega, hgt, by omega⟩ hc
      · omega
  have hfin := foldl_of_mem (fun acc : Int × Option Nat => 0 ≤ acc.1 → acc.2.isSome = true)
    (fun acc => (0 ≤ acc.1 → acc.2.isSome = true) ∧ b - a0.time ≤ acc.1)
    (fun acc a hI => (hstep acc a hI).1) (fun acc hI => ⟨(hstep acc a0 hI).1, hhit acc⟩)
    (fun acc a hQ => ⟨(hstep acc a hQ.1).1, Int.le_trans hQ.2 (hstep acc a hQ.1).2⟩)
    cx.accessFoot (-1, none) ha0 (fun h => absurd h (by decide))
  rw [bestAccess_fold]
  generalize cx.accessFoot.foldl (bestAccessStep cx s) (-1, none) = r at hfin ⊢
  obtain ⟨st, hst⟩ := Option.isSome_iff_exists.mp (hfin.1 (by omega))
  exact ⟨r.1, st, by simp [hst], hfin.2⟩

end Tr
