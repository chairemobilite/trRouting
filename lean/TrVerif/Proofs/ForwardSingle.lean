/-
  TrVerif.Proofs.ForwardSingle — completeness of the forward scan of a SINGLE calculation
  (`single = true`): the extra break once an egress stop has been reached. The invariant is the one
  of `ForwardComplete`, relative to an upper cut line `β`: nothing that leaves after `β` is
  claimed. Then the selection of the best egress stop (`bestEgress_le`, `bestEgress_sound`).
-/
import TrVerif.Proofs.ForwardComplete
import TrVerif.Proofs.HourIndex
namespace Tr

theorem fwdAlightS_reached (cx : Ctx) (single : Bool) (s : FState) (c : Conn) :
    ((fwdAlightS cx single s c).reached = s.reached ∧ (fwdAlightS cx single s c).tentEgrArr = s.tentEgrArr) ∨
    (s.reached = false ∧ (fwdAlightS cx single s c).reached = true ∧ (fwdAlightS cx single s c).tentEgrArr = c.arr ∧
      c.canUnboard = true ∧ (s.enterC c.trip).isSome = true ∧ ∃ g, cx.nodesEgress c.arrStop = some g) := by
  rw [fwdAlightS_eq]
  split
  · next hc =>
    rw [foldl_keeps FState.reached (fun t f => by rw [fwdFoot_frame]),
      foldl_keeps FState.tentEgrArr (fun t f => by rw [fwdFoot_frame])]
    unfold fwdMark
    split
    · next hm =>
      refine Or.inr ⟨by simpa using hm.2.1, rfl, rfl, hc.1, hc.2, ?_⟩
      cases hna : cx.nodesEgress c.arrStop with
      | none => rw [hna] at hm; simp at hm
      | some g => exact ⟨g, rfl⟩
    · exact Or.inl ⟨rfl, rfl⟩
  · exact Or.inl ⟨rfl, rfl⟩

theorem fwdStep_reached (cx : Ctx) (single : Bool) (s : FState) (c : Conn) :
    ((fwdStep cx single s c).reached = s.reached ∧ (fwdStep cx single s c).tentEgrArr = s.tentEgrArr) ∨
    (s.reached = false ∧ (fwdStep cx single s c).reached = true ∧ (fwdStep cx single s c).tentEgrArr = c.arr ∧
      c.canUnboard = true ∧ ((fwdBoardS s c).enterC c.trip).isSome = true ∧ (∃ g, cx.nodesEgress c.arrStop = some g) ∧
      fwdStep cx single s c =
        { fwdAlightS cx single (fwdBoardS s c) c with count := (fwdAlightS cx single (fwdBoardS s c) c).count + 1 }) := by
  rcases fwdStep_cases cx single s c with h | h | ⟨_, _, h⟩
  · rw [h]; exact Or.inl ⟨rfl, rfl⟩
  · rw [h]; exact Or.inl ⟨rfl, rfl⟩
  · have he1 : (fwdBoardS s c).reached = s.reached := by rw [fwdBoardS_frame]
    have he2 : (fwdBoardS s c).tentEgrArr = s.tentEgrArr := by rw [fwdBoardS_frame]
    rcases fwdAlightS_reached cx single (fwdBoardS s c) c with ⟨h1, h2⟩ | ⟨h0, h1, h2, h3⟩
    · rw [h]; exact Or.inl ⟨h1.trans he1, h2.trans he2⟩
    · exact Or.inr ⟨he1 ▸ h0, by rw [h]; exact h1, by rw [h]; exact h2, h3.1, h3.2.1, h3.2.2, h⟩

theorem fwdStep_frozen (cx : Ctx) (single : Bool) (s : FState) (c : Conn) (h : s.reached = true) :
    (fwdStep cx single s c).reached = true ∧ (fwdStep cx single s c).tentEgrArr = s.tentEgrArr := by
  rcases fwdStep_reached cx single s c with ⟨h1, h2⟩ | ⟨h0, _⟩
  · exact ⟨h1.trans h, h2⟩
  · rw [h] at h0; cases h0

theorem fwdStep_usable (cx : Ctx) (single : Bool) (s : FState) (c : Conn)
    (hu : ∀ T, (s.enterC T).isSome = true → s.usable T = true) (T : Nat) :
    ((fwdStep cx single s c).enterC T).isSome = true → (fwdStep cx single s c).usable T = true := by
  rcases fwdStep_cases cx single s c with h | h | ⟨_, _, h⟩
  · rw [h]; exact hu T
  · rw [h]; exact hu T
  · rw [h]
    show ((fwdAlightS cx single (fwdBoardS s c) c).enterC T).isSome = true → (fwdAlightS cx single (fwdBoardS s c) c).usable T = true
    rw [fwdAlightS_keeps (·.enterC) (fun _ _ _ _ _ _ => rfl), fwdAlightS_keeps (·.usable) (fun _ _ _ _ _ _ => rfl)]
    unfold fwdBoardS
    split
    · exact upd_all (P := fun T (o : Option Conn) => o.isSome = true → upd s.usable c.trip true T = true)
        (fun _ => upd_same _ _ _) (fun T h => by rw [upd_apply]; split; rfl; exact hu T h) T
    · exact hu T

structure FCβ (cx : Ctx) (β : Int) (P : List Conn) (s : FState) : Prop where
  tent : ∀ y t, Reach cx P y t → t ≤ β → s.tent y ≤ t
  enter : ∀ e ∈ P, BoardP cx P e → e.dep ≤ β → (s.enterC e.trip).isSome = true
  egr : ∀ e ∈ P, ∀ x ∈ P, BoardP cx P e → e.trip = x.trip → e.seq ≤ x.seq → x.canUnboard = true →
    x.dep ≤ β → EgrLe s x.arrStop x.arr ∧ 1 ≤ s.count
  stop : s.stop = true → ∃ c0 ∈ P, β < c0.dep
  egrWF : ∀ y js, s.egr y = some js → ∃ x, js.exit = some x
  /-- once an egress stop is reached: by an alighting at a stop the router offers, recorded at least as early -/
  reach : s.reached = true → ∃ c1 ∈ P, c1.arr = s.tentEgrArr ∧ (∃ g1, cx.nodesEgress c1.arrStop = some g1) ∧
    EgrLe s c1.arrStop c1.arr ∧ 1 ≤ s.count
  usable : ∀ T, (s.enterC T).isSome = true → s.usable T = true

theorem FCβ.core {cx : Ctx} {β : Int} {P : List Conn} {s : FState} (h : FCβ cx β P s) : FCore cx β (fun x => x.dep ≤ β) P s :=
  ⟨h.tent, h.enter, fun e he x hx hb ht hs hcu hg => (h.egr e he x hx hb ht hs hcu hg).1, h.stop, h.egrWF⟩

theorem init_FCβ (cx : Ctx) (β : Int) (hnd : (cx.accessFoot.map (·.stop)).Nodup) : FCβ cx β [] (FState.init cx) :=
  ⟨fun _ _ h _ => init_tent_le cx hnd h, fun _ he => (nomatch he), fun _ he => (nomatch he), fun h => (nomatch h),
   fun _ _ h => (nomatch h), fun h => (nomatch h), fun _ h => (nomatch h)⟩

theorem fwdStep1_FCβ {cx : Ctx} {L P : List Conn} {s : FState} {c : Conn} {β : Int} (w : FW cx L)
    (hP : ∀ a ∈ P ++ [c], a ∈ L) (hbefore : ∀ a ∈ P, fwdLt c a = false)
    (hβ1 : β ≤ cx.depT + cx.p.maxTotal)
    (hβ2 : s.reached = true → cx.maxEgress ≥ 0 → s.tentEgrArr < MAX_INT → β ≤ s.tentEgrArr + cx.maxEgress)
    (h : FCβ cx β P s) :
    FCβ cx β (P ++ [c]) (fwdStep cx true s c) := by
  have hk := fwdStep_FCore (single := true) w hP hbefore (fun _ _ hg => hg) hβ1 (fun _ => hβ2) h.core
  have hegrE : EgrWF (fwdBoardS s c).egr := by rw [fwdBoardS_egr]; exact h.egrWF
  refine ⟨hk.tent, hk.enter, ?_, hk.stop, hk.egrWF, ?_, fwdStep_usable cx true s c h.usable⟩
  · -- the count: the alighting at `x` went through the main branch, now or earlier
    intro e he x hx hb ht hs hcu hxa
    refine ⟨hk.egr e he x hx hb ht hs hcu hxa, ?_⟩
    by_cases hxc : x = c
    · subst hxc
      rw [(fwdStep_ride (single := true) w hP hbefore hβ1 (fun _ => hβ2) h.core he hb ht hs hxa).1]
      exact Nat.le_add_left 1 _
    · obtain ⟨heP, hxP, hbP⟩ := ride_before_fwd w hP hbefore he hx ht hs hxc hb
      exact Nat.le_trans (h.egr e heP x hxP hbP ht hs hcu hxa).2 (fwdStep_count_mono cx true s c)
  · intro hre
    rcases fwdStep_reached cx true s c with ⟨h1, h2⟩ | ⟨_, _, h2, hcu, hen, hg, hm⟩
    · obtain ⟨c1, hc1, a, b, d, n⟩ := h.reach (h1 ▸ hre)
      exact ⟨c1, List.mem_append_left _ hc1, a.trans h2.symm, b, (fwdStep_better cx true s c).egr _ _ d,
        Nat.le_trans n (fwdStep_count_mono cx true s c)⟩
    · obtain ⟨f0, hf0, hf0s, hf0t⟩ := w.selfFoot c (hP c (by simp))
      refine ⟨c, by simp, h2.symm, hg, ?_, ?_⟩ <;> rw [hm]
      · exact fwdAlightS_egr hcu hen hf0 hf0t hf0s hegrE
      · exact Nat.le_add_left 1 _

/-- `β` is chosen from the final state: the condition on it is inherited by every earlier state because the reached mark
    and its arrival are frozen -/
theorem fwdScanList1_FCβ {cx : Ctx} {L : List Conn} (w : FW cx L) (β : Int) (hβ1 : β ≤ cx.depT + cx.p.maxTotal) :
    ∀ (post pre : List Conn) (s : FState), (∀ a ∈ pre ++ post, a ∈ L) → SortedFwd (pre ++ post) →
      FCβ cx β pre s →
      ((post.foldl (fwdStep cx true) s).reached = true → cx.maxEgress ≥ 0 → (post.foldl (fwdStep cx true) s).tentEgrArr < MAX_INT →
        β ≤ (post.foldl (fwdStep cx true) s).tentEgrArr + cx.maxEgress) →
      FCβ cx β (pre ++ post) (post.foldl (fwdStep cx true) s) :=
  fun post pre s hC hs h hfin =>
    foldl_prefix_inv (· ∈ L) (fun a c => fwdLt c a = false)
      (fun s => s.reached = true → cx.maxEgress ≥ 0 → s.tentEgrArr < MAX_INT → β ≤ s.tentEgrArr + cx.maxEgress) (FCβ cx β)
      (fun s c hQ hr hm hlt => by
        obtain ⟨a, b⟩ := fwdStep_frozen cx true s c hr
        exact b ▸ hQ a hm (b ▸ hlt))
      (fun _ _ _ hM hR hQ h => fwdStep1_FCβ w hM hR hβ1 hQ h) post pre s hC hs hfin h

/-- the cut line of a finished single scan: the departure from which the egress break would fire, if that is within the
    travel-time maximum, else that maximum -/
def cutLine (cx : Ctx) (fs : FState) : Int :=
  if fs.reached = true ∧ cx.maxEgress ≥ 0 ∧ fs.tentEgrArr < MAX_INT ∧ fs.tentEgrArr + cx.maxEgress ≤ cx.depT + cx.p.maxTotal then
    fs.tentEgrArr + cx.maxEgress
  else cx.depT + cx.p.maxTotal

theorem cutLine_spec (cx : Ctx) (fs : FState) : cutLine cx fs ≤ cx.depT + cx.p.maxTotal ∧
    (fs.reached = true → cx.maxEgress ≥ 0 → fs.tentEgrArr < MAX_INT → cutLine cx fs ≤ fs.tentEgrArr + cx.maxEgress) ∧
    (cutLine cx fs = cx.depT + cx.p.maxTotal ∨ fs.reached = true ∧ cutLine cx fs = fs.tentEgrArr + cx.maxEgress) := by
  unfold cutLine
  split
  · next hc => exact ⟨hc.2.2.2, fun _ _ _ => Int.le_refl _, Or.inr ⟨hc.1, rfl⟩⟩
  · next hc =>
    refine ⟨Int.le_refl _, fun hr hm hlt => ?_, Or.inl rfl⟩
    have : ¬ fs.tentEgrArr + cx.maxEgress ≤ cx.depT + cx.p.maxTotal := fun hh => hc ⟨hr, hm, hlt, hh⟩
    omega

theorem fwdScan_FCβ {cx : Ctx} (w : FW cx cx.cs.fwd) (hs : SortedFwd cx.cs.fwd) (start : Nat) :
    FCβ cx (cutLine cx (fwdScan cx true start)) (cx.cs.fwd.drop start) (fwdScan cx true start) :=
  fwdScanList1_FCβ w _ (cutLine_spec cx _).1 (cx.cs.fwd.drop start) [] (FState.init cx)
    (fun _ ha => List.mem_of_mem_drop ha) (hs.sublist (List.drop_sublist _ _)) (init_FCβ cx _ w.accNodup)
    (cutLine_spec cx (fwdScan cx true start)).2.1

def bestEgressStep (cx : Ctx) (s : FState) (acc : Int × Option Nat) (e : NTD) : Int × Option Nat :=
  match s.egr e.stop with
  | some js => match js.exit, cx.nodesEgress e.stop with
    | some x, some eg =>
      let t := x.arr + eg.time
      if t ≥ 0 ∧ t - cx.depT ≤ cx.p.maxTotal ∧ t < acc.1 ∧ t < MAX_INT then (t, some eg.stop) else acc
    | _, _ => acc
  | none => acc

theorem bestEgress_fold (cx : Ctx) (s : FState) : bestEgress cx s =
    (cx.egressFoot.foldl (bestEgressStep cx s) (MAX_INT, none) |> fun r => r.2.map fun st => (r.1, st)) := rfl

theorem bestEgressStep_cases (cx : Ctx) (s : FState) (acc : Int × Option Nat) (e : NTD) : bestEgressStep cx s acc e = acc ∨
    ∃ js x eg, s.egr e.stop = some js ∧ js.exit = some x ∧ cx.nodesEgress e.stop = some eg ∧
      0 ≤ x.arr + eg.time ∧ x.arr + eg.time - cx.depT ≤ cx.p.maxTotal ∧ x.arr + eg.time < acc.1 ∧
      x.arr + eg.time < MAX_INT ∧ bestEgressStep cx s acc e = (x.arr + eg.time, some eg.stop) := by
  unfold bestEgressStep
  split
  · next js hsa =>
    split
    · next x eg hje hna =>
      simp only
      split
      · next hc => exact Or.inr ⟨js, x, eg, hsa, hje, hna, hc.1, hc.2.1, hc.2.2.1, hc.2.2.2, rfl⟩
      · exact Or.inl rfl
    · exact Or.inl rfl
  · exact Or.inl rfl

theorem bestEgressStep_mono (cx : Ctx) (s : FState) (acc : Int × Option Nat) (e : NTD) :
    (bestEgressStep cx s acc e).1 ≤ acc.1 ∧
    ((acc.1 < MAX_INT → acc.2.isSome = true) → (bestEgressStep cx s acc e).1 < MAX_INT → (bestEgressStep cx s acc e).2.isSome = true) := by
  rcases bestEgressStep_cases cx s acc e with h | ⟨_, x, eg, _, _, _, _, _, hlt, _, h⟩ <;> rw [h]
  · exact ⟨Int.le_refl _, id⟩
  · exact ⟨Int.le_of_lt hlt, fun _ _ => rfl⟩

theorem bestEgressStep_le (cx : Ctx) (s : FState) (acc : Int × Option Nat) (e : NTD) {js : JStep} {x : Conn} {eg : NTD}
    (hsa : s.egr e.stop = some js) (hje : js.exit = some x) (hna : cx.nodesEgress e.stop = some eg)
    (h0 : 0 ≤ x.arr + eg.time) (hT : x.arr + eg.time - cx.depT ≤ cx.p.maxTotal) (hlt : x.arr + eg.time < MAX_INT) :
    (bestEgressStep cx s acc e).1 ≤ x.arr + eg.time := by
  unfold bestEgressStep
  rw [hsa]
  simp only [hje, hna]
  split
  · exact Int.le_refl _
  · next hc =>
    by_cases hlt2 : x.arr + eg.time < acc.1
    · exact absurd ⟨h0, hT, hlt2, hlt⟩ hc
    · omega

theorem bestEgress_le {cx : Ctx} {s : FState} (hnd : (cx.egressFoot.map (·.stop)).Nodup) {g0 : NTD} (hg0 : g0 ∈ cx.egressFoot)
    {b : Int} (hegr : EgrLe s g0.stop b) (h0 : 0 ≤ b + g0.time) (hT : b + g0.time - cx.depT ≤ cx.p.maxTotal)
    (hlt : b + g0.time < MAX_INT) (hpos : ∀ y js x, s.egr y = some js → js.exit = some x → 0 ≤ x.arr)
    (hegrNonneg : ∀ g ∈ cx.egressFoot, 0 ≤ g.time) :
    ∃ ba node, bestEgress cx s = some (ba, node) ∧ ba ≤ b + g0.time := by
  obtain ⟨js0, x0, hj0, hx0, hb0⟩ := hegr
  have hxa := hpos _ _ _ hj0 hx0
  have hgt := hegrNonneg g0 hg0
  -- from `g0` on the time is at most the recorded arrival there plus the walk
  have key := foldl_of_mem (f := bestEgressStep cx s) (a := g0) (fun acc => acc.1 < MAX_INT → acc.2.isSome = true)
    (fun acc => (acc.1 < MAX_INT → acc.2.isSome = true) ∧ acc.1 ≤ b + g0.time)
    (fun acc e => (bestEgressStep_mono cx s acc e).2)
    (fun acc hW => ⟨(bestEgressStep_mono cx s acc g0).2 hW,
      Int.le_trans (bestEgressStep_le cx s acc g0 hj0 hx0 (nodes_find_nodup hnd hg0) (by omega) (by omega) (by omega)) (by omega)⟩)
    (fun acc e h => ⟨(bestEgressStep_mono cx s acc e).2 h.1, Int.le_trans (bestEgressStep_mono cx s acc e).1 h.2⟩)
    cx.egressFoot (MAX_INT, none) hg0 (fun h => absurd h (Int.lt_irrefl _))
  rw [bestEgress_fold]
  generalize cx.egressFoot.foldl (bestEgressStep cx s) (MAX_INT, none) = r at key
  obtain ⟨st, hst⟩ := Option.isSome_iff_exists.mp (key.1 (by omega))
  exact ⟨r.1, st, by simp [hst], key.2⟩

theorem bestEgress_sound {cx : Ctx} {s : FState} {t : Int} {n : Nat} (h : bestEgress cx s = some (t, n)) :
    ∃ g ∈ cx.egressFoot, ∃ js x eg, s.egr g.stop = some js ∧ js.exit = some x ∧ cx.nodesEgress g.stop = some eg ∧
      t = x.arr + eg.time ∧ t - cx.depT ≤ cx.p.maxTotal ∧ 0 ≤ t := by
  have key := foldl_inv (f := bestEgressStep cx s) (l := cx.egressFoot)
    (fun acc => acc.2.isSome = true → ∃ g ∈ cx.egressFoot, ∃ js x eg, s.egr g.stop = some js ∧ js.exit = some x ∧
      cx.nodesEgress g.stop = some eg ∧ acc.1 = x.arr + eg.time ∧ acc.1 - cx.depT ≤ cx.p.maxTotal ∧ 0 ≤ acc.1)
    (fun acc a ha hI => by
      rcases bestEgressStep_cases cx s acc a with h | ⟨js, x, eg, hsa, hje, hna, h0, hT, _, _, h⟩ <;> rw [h]
      · exact hI
      · exact fun _ => ⟨a, ha, js, x, eg, hsa, hje, hna, rfl, hT, h0⟩)
    (s := (MAX_INT, none)) (fun h => nomatch h)
  rw [bestEgress_fold] at h
  generalize cx.egressFoot.foldl (bestEgressStep cx s) (MAX_INT, none) = r at key h
  cases hr2 : r.2 with
  | none => simp [hr2] at h
  | some st =>
    simp [hr2] at h
    exact h.1 ▸ key (by rw [hr2]; rfl)

end Tr
