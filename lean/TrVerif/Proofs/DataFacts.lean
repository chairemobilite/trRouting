/-
  TrVerif.Proofs.DataFacts — facts about the connections built from a well-formed dataset:
  a trip's connection list written as a `map` over its hop numbers, look-ups by trip identifier,
  what the schedule's well-formedness gives for the list of all connections, membership in a
  scenario's connection lists, and the two footpath vectors of a stop as views of one table.
-/
import TrVerif.Proofs.Sort
import TrVerif.Proofs.Reverse
import TrVerif.Model.Calc
import TrVerif.Proofs.Tables
namespace Tr

structure WFSchedule (ds : Dataset) : Prop where
  nodup : (ds.trips.map (·.id)).Nodup
  arrMono : ∀ tr ∈ ds.trips, ∀ i j, i ≤ j → j < tr.arr.length → tr.arr.getD i 0 ≤ tr.arr.getD j 0

def PosHops (ds : Dataset) : Prop := ∀ c ∈ ds.conns, c.dep < c.arr

def StopsInRange (ds : Dataset) : Prop := ∀ c ∈ ds.conns, c.arrStop < ds.nStops

def DepStopsInRange (ds : Dataset) : Prop := ∀ c ∈ ds.conns, c.depStop < ds.nStops

theorem filter_flatMap {α β : Type} (g : α → List β) (p : α → Bool) (q : β → Bool) (l : List α)
    (h : ∀ a ∈ l, ∀ b ∈ g a, q b = p a) : (l.flatMap g).filter q = (l.filter p).flatMap g := by
  induction l with
  | nil => rfl
  | cons a l ih =>
    have hq := h a (List.mem_cons_self ..)
    rw [List.flatMap_cons, List.filter_append, ih fun a ha => h a (List.mem_cons_of_mem _ ha), List.filter_cons]
    cases hpa : p a
    · rw [List.filter_eq_nil_iff.mpr fun b hb => by simp [hq b hb, hpa]]; rfl
    · rw [List.filter_eq_self.mpr fun b hb => by rw [hq b hb, hpa]]; rfl

theorem filter_id_of_nodup {l : List TripRec} (h : (l.map (·.id)).Nodup) {tr : TripRec} (hm : tr ∈ l) :
    l.filter (fun t => decide (t.id = tr.id)) = [tr] := by
  induction l with
  | nil => cases hm
  | cons a rest ih =>
    obtain ⟨ha, hrest⟩ := List.nodup_cons.mp h
    have hid : ∀ t ∈ rest, t.id ≠ a.id := fun t ht he => ha (List.mem_map.mpr ⟨t, ht, he⟩)
    rcases List.mem_cons.mp hm with rfl | e
    · have : rest.filter (fun t => decide (t.id = tr.id)) = [] :=
        List.filter_eq_nil_iff.mpr fun t ht => by simpa using hid t ht
      simp [this]
    · have hne : ¬ a.id = tr.id := fun he => hid tr e he.symm
      simp [hne, ih hrest e]

theorem find_of_mem_nodup {l : List TripRec} (h : (l.map (·.id)).Nodup) {tr : TripRec} (hm : tr ∈ l) :
    l.find? (·.id = tr.id) = some tr := by
  rw [← List.head?_filter, filter_id_of_nodup h hm]; rfl

theorem trip_unique {ds : Dataset} (h : (ds.trips.map (·.id)).Nodup) {t1 t2 : TripRec}
    (h1 : t1 ∈ ds.trips) (h2 : t2 ∈ ds.trips) (he : t1.id = t2.id) : t1 = t2 := by
  have a := find_of_mem_nodup h h1
  rw [he, find_of_mem_nodup h h2] at a
  exact (Option.some.inj a).symm

/-- hop `k` (stop `k` to stop `k+1`) of a trip: the element `tripConnsAux` builds -/
def connAt (tr : TripRec) (stops : List Nat) (mw : Int) (k : Nat) : Conn :=
  { depStop := stops.getD k 0, arrStop := stops.getD (k+1) 0, dep := tr.dep.getD k 0, arr := tr.arr.getD (k+1) 0,
    trip := tr.id, seq := k+1, canBoard := tr.cb.getD k true, canUnboard := tr.cu.getD (k+1) true, minWait := mw }

theorem tripConnsAux_eq_map (tr : TripRec) (stops : List Nat) (mw : Int) (k n : Nat) :
    tripConnsAux tr stops mw k n = (List.range n).map fun i => connAt tr stops mw (k + i) := by
  induction n generalizing k with
  | zero => rfl
  | succ n ih =>
    rw [tripConnsAux, ih, List.range_succ_eq_map, List.map_cons, List.map_map]
    refine congrArg _ (List.map_congr_left fun i _ => ?_)
    show connAt tr stops mw (k + 1 + i) = connAt tr stops mw (k + (i + 1))
    rw [Nat.add_assoc, Nat.add_comm 1 i]

theorem mem_tripConnsAux {tr : TripRec} {stops : List Nat} {mw : Int} {k n : Nat} {c : Conn} :
    c ∈ tripConnsAux tr stops mw k n ↔ ∃ i, i < n ∧ connAt tr stops mw (k + i) = c := by
  simp [tripConnsAux_eq_map]

def Dataset.lineMinWait (ds : Dataset) (tr : TripRec) : Int :=
  if (ds.lineRec (ds.paths.getD tr.path default).line).mode == 2 then 0 else -1

def Dataset.connOf (ds : Dataset) (tr : TripRec) (k : Nat) : Conn :=
  connAt tr (ds.paths.getD tr.path default).stops (ds.lineMinWait tr) k

@[simp] theorem connOf_trip (ds : Dataset) (tr : TripRec) (k : Nat) : (ds.connOf tr k).trip = tr.id := rfl
@[simp] theorem connOf_seq (ds : Dataset) (tr : TripRec) (k : Nat) : (ds.connOf tr k).seq = k + 1 := rfl
@[simp] theorem connOf_dep (ds : Dataset) (tr : TripRec) (k : Nat) : (ds.connOf tr k).dep = tr.dep.getD k 0 := rfl
@[simp] theorem connOf_arr (ds : Dataset) (tr : TripRec) (k : Nat) : (ds.connOf tr k).arr = tr.arr.getD (k + 1) 0 := rfl

theorem tripConns_eq_map (ds : Dataset) (tr : TripRec) :
    ds.tripConns tr = (List.range (tr.arr.length - 1)).map (ds.connOf tr) :=
  (tripConnsAux_eq_map ..).trans (by simp only [Nat.zero_add]; rfl)

theorem mem_tripConns {ds : Dataset} {tr : TripRec} {c : Conn} :
    c ∈ ds.tripConns tr ↔ ∃ i, i < tr.arr.length - 1 ∧ ds.connOf tr i = c := by
  simp [tripConns_eq_map]

theorem tripConns_length (ds : Dataset) (tr : TripRec) : (ds.tripConns tr).length = tr.arr.length - 1 := by
  simp [tripConns_eq_map]

theorem tripConns_getElem (ds : Dataset) (tr : TripRec) (i : Nat) (hi : i < (ds.tripConns tr).length) :
    (ds.tripConns tr)[i] = ds.connOf tr i := by
  simp [tripConns_eq_map]

theorem tripConns_getD (ds : Dataset) (tr : TripRec) {i : Nat} (hi : i < tr.arr.length - 1) :
    (ds.tripConns tr).getD i default = ds.connOf tr i := by
  simp [tripConns_eq_map, hi]

theorem tripConns_pairwise_of (ds : Dataset) (tr : TripRec) {R : Conn → Conn → Prop}
    (h : ∀ i j, i < j → j < tr.arr.length - 1 → R (ds.connOf tr i) (ds.connOf tr j)) :
    (ds.tripConns tr).Pairwise R := by
  rw [tripConns_eq_map, List.pairwise_map]
  exact List.pairwise_lt_range.imp_of_mem fun _ hj hij => h _ _ hij (List.mem_range.mp hj)

theorem tripConns_facts (ds : Dataset) (tr : TripRec) : ∀ c ∈ ds.tripConns tr,
    c.trip = tr.id ∧ 1 ≤ c.seq ∧ c.seq ≤ tr.arr.length - 1 ∧ c.arr = tr.arr.getD c.seq 0 ∧
      c.minWait = ds.lineMinWait tr := by
  intro c hc
  obtain ⟨i, hi, rfl⟩ := mem_tripConns.mp hc
  exact ⟨rfl, Nat.le_add_left .., hi, rfl, rfl⟩

theorem tripConns_trip (ds : Dataset) (tr : TripRec) : ∀ c ∈ ds.tripConns tr, c.trip = tr.id :=
  fun c hc => (tripConns_facts ds tr c hc).1

theorem mem_conns {ds : Dataset} {c : Conn} (h : c ∈ ds.conns) : ∃ tr ∈ ds.trips, c ∈ ds.tripConns tr := by
  simpa [Dataset.conns, List.mem_flatMap] using h

theorem connOf_mem_conns {ds : Dataset} {tr : TripRec} (htr : tr ∈ ds.trips) {i : Nat} (hi : i < tr.arr.length - 1) :
    ds.connOf tr i ∈ ds.conns :=
  List.mem_flatMap.mpr ⟨tr, htr, mem_tripConns.mpr ⟨i, hi, rfl⟩⟩

theorem same_trip {ds : Dataset} (h : (ds.trips.map (·.id)).Nodup) {a b : Conn} (ha : a ∈ ds.conns) (hb : b ∈ ds.conns)
    (ht : a.trip = b.trip) : ∃ tr ∈ ds.trips, ∃ i j, i < tr.arr.length - 1 ∧ j < tr.arr.length - 1 ∧
      ds.connOf tr i = a ∧ ds.connOf tr j = b := by
  obtain ⟨t1, h1, ha'⟩ := mem_conns ha
  obtain ⟨t2, h2, hb'⟩ := mem_conns hb
  obtain ⟨i, hi, rfl⟩ := mem_tripConns.mp ha'
  obtain ⟨j, hj, rfl⟩ := mem_tripConns.mp hb'
  obtain rfl : t1 = t2 := trip_unique h h1 h2 ht
  exact ⟨t1, h1, i, j, hi, hj, rfl, rfl⟩

theorem conn_eq_of_trip_seq {ds : Dataset} (h : (ds.trips.map (·.id)).Nodup) {a b : Conn} (ha : a ∈ ds.conns)
    (hb : b ∈ ds.conns) (ht : a.trip = b.trip) (hs : a.seq = b.seq) : a = b := by
  obtain ⟨tr, _, i, j, _, _, rfl, rfl⟩ := same_trip h ha hb ht
  rw [Nat.succ.inj hs]

theorem conns_arrMono {ds : Dataset} (h : WFSchedule ds) : ArrMono ds.conns := by
  intro a ha b hb ht hs
  obtain ⟨tr, htr, i, j, _, hj, rfl, rfl⟩ := same_trip h.nodup ha hb ht
  exact h.arrMono tr htr (i + 1) (j + 1) hs (by omega)

/-- minimum waiting time in force for boarding trip `t` -/
def Dataset.mwOfTrip (ds : Dataset) (p : Params) (t : Nat) : Int := if ds.transferable t then 0 else p.minWait

theorem conns_effWait {ds : Dataset} (h : WFSchedule ds) (p : Params) : ∀ c ∈ ds.conns,
    c.effWait p.minWait = ds.mwOfTrip p c.trip := by
  intro c hc
  obtain ⟨tr, htr, hc'⟩ := mem_conns hc
  obtain ⟨a1, _, _, _, a5⟩ := tripConns_facts ds tr c hc'
  have hf : ds.tripRec? c.trip = some tr := by rw [a1]; exact find_of_mem_nodup h.nodup htr
  simp only [Conn.effWait, Dataset.mwOfTrip, Dataset.transferable, Dataset.modeOfTrip, Dataset.lineOfTrip,
    Dataset.pathOfTrip, hf, a5, Dataset.lineMinWait]
  by_cases hm : (ds.lineRec (ds.paths[tr.path]?.getD default).line).mode = 2
  · simp [hm]
  · simp [hm]

theorem mem_connSetOf_fwd {ds : Dataset} {sc : Scenario} {c : Conn} :
    c ∈ (ds.connSetOf sc).fwd ↔ c ∈ ds.conns ∧ ds.tripEnabled sc c.trip = true := by
  simp only [Dataset.connSetOf, mkConnSet, Dataset.fwdAll, List.mem_filter, mem_isort]

theorem mem_connSetOf_rev {ds : Dataset} {sc : Scenario} {c : Conn} :
    c ∈ (ds.connSetOf sc).rev ↔ c ∈ ds.conns ∧ ds.tripEnabled sc c.trip = true := by
  simp only [Dataset.connSetOf, mkConnSet, Dataset.revAll, List.mem_filter, mem_isort]

theorem mem_connSetOf_trips {ds : Dataset} {sc : Scenario} {t : Nat} :
    t ∈ (ds.connSetOf sc).trips ↔ t ∈ ds.trips.map (·.id) ∧ ds.tripEnabled sc t = true := by
  simp only [Dataset.connSetOf, mkConnSet, List.mem_filter]

theorem connSetOf_rev_sub (ds : Dataset) (sc : Scenario) : ∀ c ∈ (ds.connSetOf sc).rev, c ∈ ds.conns :=
  fun _ hc => (mem_connSetOf_rev.mp hc).1

theorem connSetOf_sorted (ds : Dataset) (sc : Scenario) : SortedRev (ds.connSetOf sc).rev := by
  simp only [Dataset.connSetOf, mkConnSet, Dataset.revAll]
  exact List.Pairwise.sublist List.filter_sublist (sorted_isort revLt revLt_strictWeak ds.conns)

theorem footOf_mem {ds : Dataset} {z : Nat} {n : NTD} (h : n ∈ ds.footOf z) :
    (⟨z, n.stop, n.time, n.dist⟩ : Foot) ∈ ds.foot := by
  obtain ⟨f, hf, hn⟩ := List.mem_filterMap.mp h
  split at hn
  · next hb => cases hn; cases hb; exact hf
  · cases hn

theorem rfootOf_mem {ds : Dataset} {z : Nat} {n : NTD} (h : n ∈ ds.rfootOf z) :
    (⟨n.stop, z, n.time, n.dist⟩ : Foot) ∈ ds.foot := by
  simp only [Dataset.rfootOf, List.mem_filterMap] at h
  obtain ⟨f, hf, hn⟩ := h
  by_cases hb : f.b = z
  · simp [hb] at hn
    subst hn; subst hb
    cases f; exact hf
  · simp [hb] at hn

theorem foot_flip {ds : Dataset} {z : Nat} {f : NTD} (h : f ∈ ds.footOf z) :
    (⟨z, f.time, f.dist⟩ : NTD) ∈ ds.rfootOf f.stop :=
  List.mem_filterMap.mpr ⟨_, footOf_mem h, by simp⟩

theorem rfoot_flip {ds : Dataset} {z : Nat} {f : NTD} (h : f ∈ ds.rfootOf z) :
    (⟨z, f.time, f.dist⟩ : NTD) ∈ ds.footOf f.stop :=
  List.mem_filterMap.mpr ⟨_, rfootOf_mem h, by simp⟩

theorem conns_unique {ds : Dataset} (h : WFSchedule ds) : ∀ a ∈ ds.conns, ∀ b ∈ ds.conns, a.trip = b.trip → a.seq = b.seq → a = b :=
  fun _ ha _ hb ht hs => conn_eq_of_trip_seq h.nodup ha hb ht hs

theorem same_stop_eq {l : List AccNode} (hs : (l.map (·.stop)).Pairwise (· < ·)) {a b : AccNode} (ha : a ∈ l) (hb : b ∈ l)
    (h : a.stop = b.stop) : a = b :=
  have hp := List.pairwise_map.mp hs
  List.Pairwise.forall_of_forall_of_flip (R := fun a b : AccNode => a.stop = b.stop → a = b) (fun _ _ _ => rfl)
    (hp.imp fun hlt he => by omega) (hp.imp fun hlt he => by omega) ha hb h

/-- clock values fit the integer type the tables use for "not reached" -/
def TimesBounded (ds : Dataset) : Prop := ∀ c ∈ ds.conns, c.dep < MAX_INT

end Tr
