/-
  TrVerif.Proofs.DataTerm — the connections built from a well-formed dataset provide what the
  termination proofs need (`BetweenOK`, `UniqueSeq`, `ChainWF`).
-/
import TrVerif.Proofs.NoException
import TrVerif.Proofs.DataWF
namespace Tr

theorem betweenOK_dataset {ds : Dataset} (h : WFData ds) (hr : DepStopsInRange ds) (p : Params) (sc : Scenario)
    (a e : List NTD) (depT arrT : Int) :
    BetweenOK (mkCtx (ds.restrict (ds.connSetOf sc)) p (ds.connSetOf sc) a e depT arrT) (ds.connSetOf sc).rev := by
  intro ec hec xc hxc htrip hseq nd hnd
  obtain ⟨tr, htr, i, j, hij, hj, rfl, rfl, _, htrR, hsl⟩ := slice_dataset h.toWFSchedule sc hec hxc htrip hseq
  have hfwd : (ds.restrict (ds.connSetOf sc)).tripFwd tr.id = ds.tripConns tr :=
    tripFwd_eq (restrict_wfSchedule h.toWFSchedule _) htrR (h.depMono tr htr)
  simp only [legBetween, List.mem_filterMap, List.mem_range] at hnd
  obtain ⟨k, hk, hkk⟩ := hnd
  have hk : k < j - i := hk
  -- `nd` is where hop `i+1+k` leaves from, which is where hop `i+k` arrives; both lie in the slice
  obtain rfl : (ds.connOf tr (i + 1 + k)).depStop = nd := by
    rw [show (mkCtx (ds.restrict (ds.connSetOf sc)) p (ds.connSetOf sc) a e depT arrT).ds.tripFwd (ds.connOf tr i).trip
      = ds.tripConns tr from hfwd, show (ds.connOf tr i).seq - 1 + 1 + k = i + 1 + k from rfl, tripConns_getD ds tr (by omega)] at hkk
    split at hkk
    · exact Option.some.inj hkk
    · cases hkk
  refine ⟨hr _ (connOf_mem_conns htr (by omega)), ⟨ds.connOf tr (i + k), (hsl _).mpr ⟨_, by omega, by omega, rfl⟩, ?_⟩,
    ⟨_, (hsl _).mpr ⟨_, by omega, by omega, rfl⟩, rfl⟩⟩
  show (ds.paths.getD tr.path default).stops.getD (i + k + 1) 0 = (ds.paths.getD tr.path default).stops.getD (i + 1 + k) 0
  rw [Nat.add_right_comm]

theorem uniqueSeq_dataset {ds : Dataset} (h : WFSchedule ds) (sc : Scenario) : UniqueSeq (ds.connSetOf sc).rev :=
  fun a ha b hb => conn_eq_of_trip_seq h.nodup (connSetOf_rev_sub ds sc a ha) (connSetOf_rev_sub ds sc b hb)

theorem chainWF_dataset {ds : Dataset} (h : WFData ds) (hpos : PosHops ds) (hr : StopsInRange ds) (p : Params) (sc : Scenario)
    (a e : List NTD) (depT arrT : Int) :
    ChainWF (mkCtx (ds.restrict (ds.connSetOf sc)) p (ds.connSetOf sc) a e depT arrT) (ds.connSetOf sc).rev := by
  have hsub := connSetOf_rev_sub ds sc
  refine ⟨?_, fun c hc => hr c (hsub c hc)⟩
  intro ec hec xc hxc ht hs
  obtain ⟨tr, htr, i, j, _, hj, rfl, rfl⟩ := same_trip h.nodup (hsub ec hec) (hsub xc hxc) ht
  -- hop `i` leaves no later than hop `j`, which takes positive time
  exact Int.lt_of_le_of_lt (h.depMono tr htr i j (Nat.le_of_succ_le_succ hs) (by omega)) (hpos _ (hsub _ hxc))

end Tr
