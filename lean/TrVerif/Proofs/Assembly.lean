/-
  TrVerif.Proofs.Assembly — from the reverse-scan invariant to the rendered route:
  best access stop, reconstruction, clean-up (through the hypothesis `CleanupPreserves`, which
  `Proofs/Cleanup.lean` discharges), emission.
-/
import TrVerif.Proofs.RenderValid
import TrVerif.Model.Calc
import TrVerif.Proofs.Fold
namespace Tr

/-- the first-waiting test of a departure-time query: counted from the moment the traveller can
    stand at the first stop (requested departure + access walk), the wait for the first vehicle is
    within the cap - unless the cap is smaller than the minimum waiting time in force, which no
    boarding could satisfy (DESIGN 0.5) -/
def FirstWaitOK (cx : Ctx) (e : Conn) (walk : Int) : Prop :=
  cx.depT ≠ -1 → (cx.p.maxFirstWait < e.effWait cx.p.minWait ∨ e.dep - cx.depT - walk ≤ cx.p.maxFirstWait)

/-- a complete journey: access step, at least one leg, egress step, consistent with the tables of the walking
    router and with the departure time `bd` -/
def JourneyOK (cx : Ctx) (C : List Conn) (bd : Int) (j : List JStep) : Prop :=
  ∃ acc legs egr, j = [acc] ++ legs ++ [egr] ∧ acc.enter = none ∧ egr.enter = none ∧ legs ≠ [] ∧
    LegsOK cx C legs ∧
    (∀ e, legs.head?.bind (·.enter) = some e →
      (⟨e.depStop, acc.walk, acc.dist⟩ : NTD) ∈ cx.accessFoot ∧ bd + acc.walk + e.effWait cx.p.minWait ≤ e.dep ∧
      FirstWaitOK cx e acc.walk) ∧
    (∀ l x, legs.getLast? = some l → l.exit = some x → (⟨x.arrStop, egr.walk, egr.dist⟩ : NTD) ∈ cx.egressFoot ∧
      (cx.EgrNodup → x.arr + egr.walk ≤ cx.arrT))

def CleanupPreserves (cx : Ctx) (C : List Conn) : Prop :=
  ∀ bd j o, JourneyOK cx C bd j → optimizeJourney cx.ds j = some o → JourneyOK cx C bd o.journey

theorem emit_valid {cx : Ctx} {C T : List Conn} (hCT : ∀ c ∈ C, c ∈ T) (mwOf : Nat → Int)
    (hmw : ∀ c ∈ C, c.effWait cx.p.minWait = mwOf c.trip) {bd : Int} {j : List JStep} (h : JourneyOK cx C bd j) :
    ValidItinerary T cx.ds.foot cx.accessFoot cx.egressFoot mwOf (emit cx.ds cx.p.minWait bd j) := by
  obtain ⟨acc, legs, egr, rfl, hacc, hegr, hne, hok, hfirst, hlast⟩ := h
  obtain ⟨hsteps, hdep⟩ := emit_steps cx.ds cx.p.minWait bd acc egr legs hacc hegr hne hok.allLegs
  obtain ⟨l1, rest, rfl⟩ := List.exists_cons_of_ne_nil hne
  obtain ⟨e1, x1, he1, hx1⟩ := hok.allLegs l1 (List.mem_cons_self ..)
  have hf := hfirst e1 (by simp [he1])
  have hrides := stepsOfLegs_valid cx C T hCT mwOf cx.egressFoot egr (l1 :: rest) (bd + acc.walk) hne hok
    (fun l hl e he => hmw e (hok.mem_enter l hl e he))
    (by intro e h; simp [he1] at h; subst h; exact hf.2.1)
    (fun l x hl hx => ⟨egr.dist, (hlast l x hl hx).1⟩)
  obtain ⟨tail, htail⟩ := stepsOfLegs_head cx.ds cx.p.minWait egr l1 rest (bd + acc.walk) e1 x1 he1 hx1
  unfold ValidItinerary
  rw [hsteps, hdep, htail]
  rw [htail] at hrides
  simp only [boardOf, Step.stopOf]
  exact ⟨⟨acc.dist, hf.1⟩, by simpa [boardOf] using hrides⟩

theorem init_RInv (cx : Ctx) : RInv cx [] (RState.init cx) := by
  have hen : ∀ y, ((RState.init cx).steps y).enter = none := by
    intro y; exact foldl_upd_enter cx.egressFoot _ (fun _ => rfl) y
  constructor
  · intro T x h; simp [RState.init] at h
  · intro y e he; rw [hen y] at he; cases he
  · intro y _; exact ⟨rfl, rfl⟩
  · intro y a h; simp [RState.init] at h

def Ctx.allowed (cx : Ctx) (c : Conn) : Bool := !cx.disabled c.trip

theorem allowed_not_disabled {cx : Ctx} {C : List Conn} : ∀ c ∈ C.filter cx.allowed, cx.disabled c.trip = false := by
  intro c hc
  have := (List.mem_filter.mp hc).2
  unfold Ctx.allowed at this
  simpa using this

theorem revStep_disabled (cx : Ctx) (u : Nat → Bool) (single : Bool) (s : RState) (c : Conn) (h : cx.disabled c.trip = true) :
    revStep cx u single s c = s := by
  unfold revStep
  by_cases h1 : s.stop = true
  · rw [if_pos h1]
  · rw [if_neg h1]
    by_cases h2 : ¬ (c.arr ≤ cx.arrT - (if single = true then cx.minEgress else 0))
    · rw [if_pos h2]
    · rw [if_neg h2, if_pos (by rw [h]; simp)]

/-- The scan skips the connections of excluded trips, so it is the scan of the allowed ones; `C` is any list that
    holds them. -/
theorem revScan_RInv {cx : Ctx} (usable : Nat → Bool) (single : Bool) {C : List Conn}
    (hC : ∀ c ∈ cx.cs.rev.filter cx.allowed, c ∈ C) (hs : SortedRev cx.cs.rev) (hm : ArrMono cx.cs.rev)
    (hmw : 0 ≤ cx.p.minWait) (start : Nat) : RInv cx C (revScan cx usable single start) := by
  have hsub : ∀ a ∈ (cx.cs.rev.drop start).filter cx.allowed, a ∈ cx.cs.rev.filter cx.allowed :=
    fun a ha => List.mem_filter.mpr ⟨List.mem_of_mem_drop (List.mem_filter.mp ha).1, (List.mem_filter.mp ha).2⟩
  have hinv := revScanList_inv usable single (cx.cs.rev.filter cx.allowed)
    (fun a ha b hb => hm a (List.mem_filter.mp ha).1 b (List.mem_filter.mp hb).1) hmw
    ((cx.cs.rev.drop start).filter cx.allowed) [] (RState.init cx) hsub
    (List.Pairwise.sublist (List.Sublist.trans List.filter_sublist (List.drop_sublist _ _)) hs) (init_RInv cx)
  rw [← foldl_filter cx.allowed
    (fun s c hc => revStep_disabled cx usable single s c (by simpa [Ctx.allowed] using hc))] at hinv
  exact hinv.mono_pre fun a ha => hC a (hsub a ha)

theorem bestAccess_spec {cx : Ctx} {s : RState} {t : Int} {node : Nat} (h : bestAccess cx s = some (t, node)) :
    ∃ js e ac, s.acc node = some js ∧ js.enter = some e ∧ cx.nodesAccess node = some ac ∧
      t = e.dep - ac.time - e.effWait cx.p.minWait ∧ 0 ≤ t ∧ cx.arrT - t ≤ cx.p.maxTotal := by
  unfold bestAccess at h
  generalize hr : cx.accessFoot.foldl _ ((-1 : Int), (none : Option Nat)) = r at h
  -- invariant of the fold: the stop held in the accumulator (if any) satisfies the claim
  have key : ∀ n, r.2 = some n → ∃ js e ac, s.acc n = some js ∧ js.enter = some e ∧ cx.nodesAccess n = some ac ∧
      r.1 = e.dep - ac.time - e.effWait cx.p.minWait ∧ 0 ≤ r.1 ∧ cx.arrT - r.1 ≤ cx.p.maxTotal := by
    rw [← hr]
    refine foldl_inv (fun acc : Int × Option Nat => ∀ n, acc.2 = some n → ∃ js e ac, s.acc n = some js ∧
      js.enter = some e ∧ cx.nodesAccess n = some ac ∧ acc.1 = e.dep - ac.time - e.effWait cx.p.minWait ∧
      0 ≤ acc.1 ∧ cx.arrT - acc.1 ≤ cx.p.maxTotal) ?_ (fun n hn => by cases hn)
    intro acc a _ hacc
    dsimp only
    split
    · split
      · split
        · rename_i _ js hsa _ _ e ac hje hna hc
          intro n hn
          cases hn
          rw [(nodes_mem hna).2]
          exact ⟨js, e, ac, hsa, hje, hna, rfl, hc.1, hc.2.1⟩
        · exact hacc
      · exact hacc
    · exact hacc
  obtain ⟨r1, r2⟩ := r
  cases r2 with
  | none => simp at h
  | some n =>
    simp only [Option.map_some, Option.some.injEq, Prod.mk.injEq] at h
    obtain ⟨rfl, rfl⟩ := h
    exact key _ rfl

theorem reconLoop_head (steps : Nat → JStep) : ∀ (fuel : Nat) (cur : JStep) (acc : List JStep) (last : Option Nat)
    (legs : List JStep) (ls : Option Nat), (acc = [] → cur.hasConns = true) →
    reconLoop steps fuel cur acc last = some (legs, ls) →
    legs.head?.bind (·.enter) = (acc ++ [cur]).head?.bind (·.enter) := by
  intro fuel cur acc last legs ls hne
  refine reconLoop_induction steps
    (P := fun cur' acc' _ => (acc' = [] → cur'.hasConns = true) ∧
      (acc' ++ [cur']).head?.bind (·.enter) = (acc ++ [cur]).head?.bind (·.enter))
    (Q := fun legs _ => legs.head?.bind (·.enter) = (acc ++ [cur]).head?.bind (·.enter))
    ?_ ?_ ?_ fuel cur acc last legs ls ⟨hne, rfl⟩
  · intro cur' acc' _ ⟨hne', hh⟩ hnc
    cases acc' with
    | nil => rw [hne' rfl] at hnc; cases hnc
    | cons a b => simpa using hh
  · intro cur' _ _ _ ⟨_, hh⟩ _ _
    exact ⟨by simp, by simpa using hh⟩
  · intro cur' a l _ _ _ ⟨_, hh⟩ _ _
    refine ⟨by simp, ?_⟩
    cases a <;> simpa using hh

theorem recon_valid {cx : Ctx} {pre : List Conn} {s : RState} (hI : RInv cx pre s) {node : Nat} {js : JStep}
    (hsacc : s.acc node = some js) {fuel : Nat} {legs : List JStep} {lastStop : Option Nat}
    (hrec : reconLoop s.steps fuel js [] none = some (legs, lastStop)) :
    RecResult cx pre s legs lastStop ∧ legs.head?.bind (·.enter) = js.enter := by
  obtain ⟨e1, x1, hje, a2, a3, _⟩ := hI.acc node js hsacc
  have hconn : js.hasConns = true := (hasConns_iff js).mpr ⟨e1, x1, hje, a2⟩
  have hinit : RecInv cx pre s [] js none := by
    refine ⟨trivial, rfl, ?_, fun h => absurd rfl h⟩
    intro e he; rw [hje] at he; cases he; exact ⟨x1, a2, a3⟩
  exact ⟨reconLoop_valid hI _ _ _ _ _ _ hinit (fun _ => hconn) hrec,
    by simpa using reconLoop_head s.steps _ _ _ _ _ _ (fun _ => hconn) hrec⟩

/-- the journey `reverseJourney` hands to the clean-up is valid -/
theorem recon_journeyOK {cx : Ctx} {pre : List Conn} {s : RState} (hI : RInv cx pre s) {bd : Int} {node : Nat} {js : JStep}
    {fuel : Nat} {legs : List JStep} {lastStop : Option Nat} {ac eg : NTD} (hb : bestAccess cx s = some (bd, node))
    (hacc : s.acc node = some js) (hrec : reconLoop s.steps fuel js [] none = some (legs, lastStop))
    (hna : cx.nodesAccess node = some ac) (heg : lastStop.bind cx.nodesEgress = some eg) :
    JourneyOK cx pre bd ([{ walk := ac.time, dist := ac.dist }] ++ legs ++ [{ walk := eg.time, dist := eg.dist }]) := by
  obtain ⟨js', e1, ac', hacc', hje, hna', hbd, hbd0, hbdT⟩ := bestAccess_spec hb
  rw [hacc] at hacc'; cases hacc'
  rw [hna] at hna'; cases hna'
  obtain ⟨e1', x1, a1, _, _, a4, a5⟩ := hI.acc node js hacc
  rw [hje] at a1; cases a1
  obtain ⟨hres, hhead⟩ := recon_valid hI hacc hrec
  obtain ⟨ll, el, xl, hl1, hl2, hl3, hl4, hl5, _, _⟩ := hres.fin
  refine ⟨_, legs, _, rfl, rfl, rfl, hres.ne, hres.ok, ?_, ?_⟩
  · intro e he
    rw [hhead, hje] at he; cases he
    refine ⟨a4 ▸ nodes_mem_mk hna, by simp; omega, fun hd => by
      obtain ⟨ac', hna', _, hcap⟩ := a5 hd
      rw [hna] at hna'; cases hna'
      exact hcap⟩
  · intro l x hl hx
    rw [hl1] at hl; cases hl
    rw [hl3] at hx; cases hx
    rw [hl4, Option.bind_some] at heg
    refine ⟨nodes_mem_mk heg, fun hnd => ?_⟩
    show xl.arr + eg.time ≤ cx.arrT
    -- the label of the stop where the last leg is left is still the initial one
    have hlab := init_lab_egress hnd (nodes_mem heg).1
    rw [(nodes_mem heg).2] at hlab
    rw [hlab] at hl5
    omega

/-- what `reverseJourneyStep` returns is `emit` of a valid journey -/
theorem reverseJourney_emits {cx : Ctx} {pre : List Conn} {s : RState} (hI : RInv cx pre s)
    (hclean : CleanupPreserves cx pre) {r : Route}
    (h : reverseJourney cx s (bestAccess cx s) = .ok r) :
    ∃ bd j, r = emit cx.ds cx.p.minWait bd j ∧ JourneyOK cx pre bd j ∧
      0 ≤ bd ∧ cx.arrT - bd ≤ cx.p.maxTotal ∧ (cx.depT ≠ -1 → cx.depT ≤ bd) := by
  -- `reverseJourney` fails unless each of its look-ups succeeds: best access stop `node` with time `bd`, the step
  -- `js` kept for it, the reconstruction `legs`, the access and egress entries `ac`, `eg`, the clean-up `o`.
  unfold reverseJourney at h
  split at h
  · cases h
  rename_i bd node hb
  split at h
  · cases h
  rename_i js hacc
  split at h
  · cases h
  rename_i legs lastStop hrec
  split at h
  case h_2 => cases h
  rename_i ac eg hna heg
  simp only at h
  split at h
  · cases h
  rename_i o hopt
  cases h
  obtain ⟨js', e1, ac', hacc', hje, hna', hbd, hbd0, hbdT⟩ := bestAccess_spec hb
  rw [hacc] at hacc'; cases hacc'
  rw [hna] at hna'; cases hna'
  obtain ⟨e1', x1, a1, _, _, a4, a5⟩ := hI.acc node js hacc
  rw [hje] at a1; cases a1
  have hJ := recon_journeyOK hI hb hacc hrec hna heg
  refine ⟨bd, o.journey, rfl, hclean bd _ o hJ hopt, hbd0, hbdT, ?_⟩
  intro hd
  obtain ⟨ac', hna', hle, _⟩ := a5 hd
  rw [hna] at hna'; cases hna'
  omega

end Tr
