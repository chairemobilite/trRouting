/-
  TrVerif.Proofs.Achieve — the route a calculation returns is itself an admissible journey in the
  sense of the optimality theorems: from the internal validity predicate `JourneyOK` (legs that are
  rides, linked by footpaths in time) to the inductive specifications `Reach` / `RReach`
  (`AdmFwd`, `AdmRev`). With the optimality theorems this makes the reported arrival / departure the
  minimum / maximum over admissible journeys, not just a bound.  (No connection of the journey is
  of an excluded trip: `calcWith_journey` gives the journey over the allowed connections.)
-/
import TrVerif.Proofs.Assembly
import TrVerif.Proofs.ReverseComplete
import TrVerif.Proofs.DataFacts
import TrVerif.Proofs.ForwardComplete
namespace Tr

/-- an admissible journey of a departure-time query, seen from its last ride -/
structure AdmFwd (cx : Ctx) (L : List Conn) (e x : Conn) (g : NTD) : Prop where
  board : BoardP cx L e
  he : e ∈ L
  hx : x ∈ L
  trip : e.trip = x.trip
  seq : e.seq ≤ x.seq
  unboard : x.canUnboard = true
  egr : g ∈ cx.egressFoot
  stop : g.stop = x.arrStop

/-- an admissible journey of an arrival-time query, seen from its first ride -/
structure AdmRev (cx : Ctx) (L : List Conn) (a0 : NTD) (e0 x0 : Conn) : Prop where
  acc : a0 ∈ cx.accessFoot
  stop : a0.stop = e0.depStop
  he : e0 ∈ L
  hx : x0 ∈ L
  trip : e0.trip = x0.trip
  seq : e0.seq ≤ x0.seq
  board : e0.canBoard = true
  unboard : UnboardP cx L x0

/-- when the traveller of that journey leaves the place -/
def admDeparture (cx : Ctx) (a0 : NTD) (e0 : Conn) : Int := e0.dep - e0.effWait cx.p.minWait - a0.time

theorem legs_unboard {cx : Ctx} {C : List Conn} (hnd : ∀ c ∈ C, cx.disabled c.trip = false) :
    ∀ (legs : List JStep), LegsOK cx C legs → legs ≠ [] →
      (∀ l x, legs.getLast? = some l → l.exit = some x → UnboardP cx C x) →
      ∀ l1 x1, legs.head? = some l1 → l1.exit = some x1 → UnboardP cx C x1 := by
  intro legs
  induction legs with
  | nil => intro _ h; exact absurd rfl h
  | cons l rest ih =>
    intro hok _ hlast l1 x1 hh hx1
    simp only [List.head?_cons, Option.some.injEq] at hh
    subst hh
    cases rest with
    | nil => exact hlast l x1 (by simp) hx1
    | cons l' rest' =>
      obtain ⟨⟨e, x, e', h1, h2, h3, h4, ⟨d, hfoot⟩, hw, htime⟩, hrest⟩ := hok
      rw [hx1] at h2; cases h2
      obtain ⟨e0, x', a, hx', hr'⟩ := hrest.head
      rw [h4] at a; cases a
      obtain ⟨hcu', hdis', tz, hrz, htz⟩ := ih hrest (by simp)
        (fun l0 x0 hl0 hx0 => hlast l0 x0 (by rw [List.getLast?_cons_cons]; exact hl0) hx0) l' x' (by simp) hx'
      refine ⟨h3.canUnboard, hnd x1 h3.exit_mem, e'.dep - l.walk - e'.effWait cx.p.minWait, ?_, by omega⟩
      exact RReach.ride x'.arrStop tz e' x' ⟨x1.arrStop, l.walk, d⟩ hrz hr'.enter_mem hr'.exit_mem rfl htz hr'.trip_eq hr'.seq_le
        hr'.canBoard hr'.canUnboard (hnd e' hr'.enter_mem) hfoot hw

theorem legs_board {cx : Ctx} {C : List Conn} (hnd : ∀ c ∈ C, cx.disabled c.trip = false) :
    ∀ (legs : List JStep), LegsOK cx C legs → legs ≠ [] →
      (∀ l e, legs.head? = some l → l.enter = some e → BoardP cx C e) →
      ∀ ln en, legs.getLast? = some ln → ln.enter = some en → BoardP cx C en := by
  intro legs
  induction legs with
  | nil => intro _ h; exact absurd rfl h
  | cons l rest ih =>
    intro hok _ hfirst ln en hl hen
    cases rest with
    | nil =>
      simp only [List.getLast?_singleton, Option.some.injEq] at hl
      subst hl
      exact hfirst l en (by simp) hen
    | cons l' rest' =>
      obtain ⟨⟨e, x, e', h1, h2, h3, h4, ⟨d, hfoot⟩, hw, htime⟩, hrest⟩ := hok
      obtain ⟨hcb, hdis, t, hr, ht⟩ := hfirst l e (by simp) h1
      have hreach : Reach cx C e'.depStop (x.arr + l.walk) :=
        Reach.ride e.depStop t e x ⟨e'.depStop, l.walk, d⟩ hr h3.enter_mem h3.exit_mem rfl ht h3.trip_eq h3.seq_le
          h3.canBoard h3.canUnboard hdis (rfoot_flip hfoot) hw
      obtain ⟨e0, x', a, _, hr'⟩ := hrest.head
      rw [h4] at a; cases a
      rw [List.getLast?_cons_cons] at hl
      exact ih hrest (by simp)
        (fun l0 e0 hl0 he0 => by
          simp only [List.head?_cons, Option.some.injEq] at hl0
          subst hl0
          rw [h4] at he0; cases he0
          exact ⟨hr'.canBoard, hnd e' hr'.enter_mem, _, hreach, htime⟩)
        ln en hl hen

/-- **a valid journey is an admissible journey of the reverse kind**, leaving no earlier than its
    recorded departure, when it arrives by the context's arrival time -/
theorem journeyOK_admRev {cx : Ctx} {C : List Conn} (hnd : ∀ c ∈ C, cx.disabled c.trip = false) {bd : Int} {j : List JStep}
    (h : JourneyOK cx C bd j) (hen : cx.EgrNodup) :
    ∃ a0 e0 x0, AdmRev cx C a0 e0 x0 ∧ bd ≤ admDeparture cx a0 e0 := by
  obtain ⟨acc, legs, egr, rfl, hacc, hegr, hne, hok, hfirst, hlast⟩ := h
  obtain ⟨l1, rest, rfl⟩ := List.exists_cons_of_ne_nil hne
  obtain ⟨e1, x1, he1, hx1, hride1⟩ := hok.head
  obtain ⟨hf1, hf2, _⟩ := hfirst e1 (by simp [he1])
  have hunb := legs_unboard hnd (l1 :: rest) hok hne (by
    intro l x hl hx
    obtain ⟨hmem, harr⟩ := hlast l x hl hx
    obtain ⟨e', x', he', hx', hrr⟩ := hok.isRide l (List.mem_of_getLast? hl)
    rw [hx] at hx'; cases hx'
    refine ⟨hrr.canUnboard, hnd x hrr.exit_mem, cx.arrT - egr.walk, ?_, by have := harr hen; omega⟩
    exact RReach.egress (cx := cx) (C := C) ⟨x.arrStop, egr.walk, egr.dist⟩ hmem) l1 x1 (by simp) hx1
  refine ⟨⟨e1.depStop, acc.walk, acc.dist⟩, e1, x1,
    ⟨hf1, rfl, hride1.enter_mem, hride1.exit_mem, hride1.trip_eq, hride1.seq_le, hride1.canBoard, hunb⟩, ?_⟩
  unfold admDeparture
  simp only
  omega

/-- **a valid journey of a departure-time calculation is an admissible journey of the forward kind**,
    arriving exactly when the emitted route arrives -/
theorem journeyOK_admFwd {cx : Ctx} {C : List Conn} (hnd : ∀ c ∈ C, cx.disabled c.trip = false) {bd : Int} {j : List JStep}
    (h : JourneyOK cx C bd j) (hdep : cx.depT ≤ bd) :
    ∃ e x g, AdmFwd cx C e x g ∧ x.arr + g.time = (emit cx.ds cx.p.minWait bd j).arrivalTime := by
  obtain ⟨acc, legs, egr, rfl, hacc, hegr, hne, hok, hfirst, hlast⟩ := h
  obtain ⟨ln, hln⟩ : ∃ l, legs.getLast? = some l := ⟨_, List.getLast?_eq_some_getLast hne⟩
  obtain ⟨en, xn, hen, hxn, hrn⟩ := hok.isRide ln (List.mem_of_getLast? hln)
  have hb := legs_board hnd legs hok hne (by
    intro l e hl he
    obtain ⟨hf1, hf2, _⟩ := hfirst e (by rw [hl]; simp [he])
    obtain ⟨e', x', he', hx', hr'⟩ := hok.isRide l (List.mem_of_mem_head? hl)
    rw [he] at he'; cases he'
    refine ⟨hr'.canBoard, hnd e hr'.enter_mem, cx.depT + acc.walk, ?_, by omega⟩
    exact Reach.access (cx := cx) (C := C) ⟨e.depStop, acc.walk, acc.dist⟩ hf1) ln en hln hen
  obtain ⟨hmem, _⟩ := hlast ln xn hln hxn
  refine ⟨en, xn, ⟨xn.arrStop, egr.walk, egr.dist⟩, ⟨hb, hrn.enter_mem, hrn.exit_mem, hrn.trip_eq, hrn.seq_le, hrn.canUnboard, hmem, rfl⟩, ?_⟩
  rw [emit_arrival _ _ _ acc egr legs hacc hegr hne hok.allLegs, finalArrival_last egr legs ln xn hln hxn]

end Tr
