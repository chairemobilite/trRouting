/-
  Proofs/Fold — what the proofs need about lists, `List.foldl` and tables updated point by point; nothing about the
  model.  Every scan, footpath loop and table initialisation of the model is a left fold.
-/
import TrVerif.Model.Basic
namespace Tr

variable {σ τ α β γ : Type}

theorem mem_of_filter {p : α → Bool} {l : List α} (c : α) (h : c ∈ l.filter p) : c ∈ l :=
  (List.mem_filter.mp h).1

theorem eq_nil_or_snoc (l : List α) : l = [] ∨ ∃ a b, l = a ++ [b] :=
  (List.eq_nil_or_concat l).imp id fun ⟨a, b, h⟩ => ⟨a, b, by rw [h, List.concat_eq_append]⟩

theorem mem_of_mem_snoc_ne {a c : α} {P : List α} (h : a ∈ P ++ [c]) (hne : a ≠ c) : a ∈ P :=
  (List.mem_append.1 h).resolve_right fun h' => hne (List.mem_singleton.1 h')

theorem foldl_inv (I : σ → Prop) {f : σ → α → σ} {l : List α} (step : ∀ s, ∀ a ∈ l, I s → I (f s a)) {s : σ} (h : I s) :
    I (l.foldl f s) := by
  induction l generalizing s with
  | nil => exact h
  | cons a l ih =>
    exact ih (fun s b hb => step s b (List.mem_cons_of_mem _ hb)) (step s a List.mem_cons_self h)

theorem foldl_keeps (π : σ → β) {f : σ → α → σ} (h : ∀ s a, π (f s a) = π s) (l : List α) (s : σ) :
    π (l.foldl f s) = π s :=
  foldl_inv (fun t => π t = π s) (fun t a _ ht => (h t a).trans ht) rfl

theorem foldl_of_mem {f : σ → α → σ} (I Q : σ → Prop) {a : α} (inv : ∀ s b, I s → I (f s b))
    (hit : ∀ s, I s → Q (f s a)) (keep : ∀ s b, Q s → Q (f s b)) :
    ∀ (l : List α) (s : σ), a ∈ l → I s → Q (l.foldl f s)
  | b :: l, s, h, hI => by
    rw [List.foldl_cons]
    rcases List.mem_cons.1 h with rfl | h
    · exact foldl_inv Q (fun s b _ => keep s b) (hit s hI)
    · exact foldl_of_mem I Q inv hit keep l _ h (inv s b hI)

theorem foldl_rel (R : σ → σ → Prop) (refl : ∀ s, R s s) (trans : ∀ {a b c}, R a b → R b c → R a c)
    {f : σ → α → σ} {l : List α} (step : ∀ s, ∀ a ∈ l, R s (f s a)) (s : σ) : R s (l.foldl f s) :=
  foldl_inv (R s) (fun t a ha h => trans h (step t a ha)) (refl s)

theorem foldl_filter {f : σ → α → σ} (p : α → Bool) (skip : ∀ s a, p a = false → f s a = s) :
    ∀ (l : List α) (s : σ), l.foldl f s = (l.filter p).foldl f s
  | [], _ => rfl
  | a :: l, s => by
    cases h : p a with
    | false => rw [List.filter_cons_of_neg (by simp [h]), List.foldl_cons, skip s a h]; exact foldl_filter p skip l s
    | true => rw [List.filter_cons_of_pos h]; exact foldl_filter p skip l (f s a)

/-- The prefix induction of a scan: `I pre s` speaks of the state `s` after the elements `pre`.  `Q` is a property of
    the *final* state that every earlier state inherits (`back`) and that the step may use. -/
theorem foldl_prefix_inv {f : σ → α → σ} (M : α → Prop) (R : α → α → Prop) (Q : σ → Prop) (I : List α → σ → Prop)
    (back : ∀ s c, Q (f s c) → Q s)
    (step : ∀ pre c s, (∀ a ∈ pre ++ [c], M a) → (∀ a ∈ pre, R a c) → Q s → I pre s → I (pre ++ [c]) (f s c)) :
    ∀ (post pre : List α) (s : σ), (∀ a ∈ pre ++ post, M a) → (pre ++ post).Pairwise R → Q (post.foldl f s) →
      I pre s → I (pre ++ post) (post.foldl f s)
  | [], pre, s, _, _, _, h => by rwa [List.append_nil]
  | c :: post, pre, s, hM, hR, hQ, h => by
    have hQs : Q s := by
      have : ∀ (l : List α) (s : σ), Q (l.foldl f s) → Q s := by
        intro l; induction l with
        | nil => exact fun _ h => h
        | cons a l ih => exact fun s h => back s a (ih _ h)
      exact this (c :: post) s hQ
    rw [List.append_cons] at hM hR ⊢
    refine foldl_prefix_inv M R Q I back step post (pre ++ [c]) (f s c) hM hR hQ (step pre c s ?_ ?_ hQs h)
    · exact fun a ha => hM a (List.mem_append_left _ ha)
    · intro a ha
      have := (List.pairwise_append.1 hR).1
      exact (List.pairwise_append.1 this).2.2 a ha c (List.mem_singleton_self c)

theorem foldl_sim {f : σ → α → σ} {g : τ → β → τ} (φ : σ → τ) (m : α → β) (I : σ → Prop) (P : α → Prop)
    (step : ∀ s a, I s → P a → g (φ s) (m a) = φ (f s a) ∧ I (f s a)) :
    ∀ (l : List α) (s : σ), (∀ a ∈ l, P a) → I s → (l.map m).foldl g (φ s) = φ (l.foldl f s) ∧ I (l.foldl f s)
  | [], _, _, h => ⟨rfl, h⟩
  | a :: l, s, hP, h => by
    obtain ⟨e, h'⟩ := step s a h (hP a List.mem_cons_self)
    rw [List.map_cons, List.foldl_cons, List.foldl_cons, e]
    exact foldl_sim φ m I P step l (f s a) (fun b hb => hP b (List.mem_cons_of_mem _ hb)) h'

theorem upd_all {P : Nat → α → Prop} {t : Nat → α} {k : Nat} {v : α} (hk : P k v) (ht : ∀ y, P y (t y))
    (y : Nat) : P y (upd t k v y) := by
  rw [upd_apply]
  split
  · next h => exact h ▸ hk
  · exact ht y

theorem le_upd_of_lt {t : Nat → Int} {y : Nat} {v : Int} (h : t y < v) (z : Nat) : t z ≤ upd t y v z :=
  upd_all (P := fun z w => t z ≤ w) (Int.le_of_lt h) (fun _ => Int.le_refl _) z

theorem foldl_upd_map (g : α → β) (key : γ → Nat) (v : γ → α) (v' : γ → β) :
    ∀ (l : List γ) (t : Nat → α), (∀ e ∈ l, g (v e) = v' e) →
      (fun n => g (l.foldl (fun t e => upd t (key e) (v e)) t n)) = l.foldl (fun t e => upd t (key e) (v' e)) (fun n => g (t n))
  | [], _, _ => rfl
  | e :: l, t, h => by
    rw [List.foldl_cons, List.foldl_cons, foldl_upd_map g key v v' l _ fun e he => h e (List.mem_cons_of_mem _ he)]
    congr 1
    funext n
    rw [upd_apply, upd_apply]
    split
    · exact h e List.mem_cons_self
    · rfl

theorem foldl_upd_all (P : α → Prop) (key : γ → Nat) (v : γ → α) {l : List γ} {t : Nat → α}
    (hv : ∀ e ∈ l, P (v e)) (ht : ∀ n, P (t n)) (n : Nat) : P (l.foldl (fun t e => upd t (key e) (v e)) t n) :=
  foldl_inv (fun (t : Nat → α) => ∀ n, P (t n))
    (fun t e he ht n => by rw [upd_apply]; split; exact hv e he; exact ht n) ht n

theorem countP_lt_of {α : Type} (p q : α → Bool) (l : List α) (himp : ∀ x ∈ l, p x = true → q x = true)
    (hex : ∃ x ∈ l, q x = true ∧ p x = false) : l.countP p < l.countP q := by
  obtain ⟨x, hx, hq, hp⟩ := hex
  -- the members satisfying `p` are those among the members satisfying `q` that do, and `x` is not one of them
  have h1 : l.countP p = (l.filter q).countP p := by
    rw [List.countP_filter]
    exact List.countP_congr fun a ha => by
      rw [Bool.and_eq_true]
      exact ⟨fun h => ⟨h, himp a ha h⟩, fun h => h.1⟩
  rw [h1, List.countP_eq_length_filter, List.countP_eq_length_filter (p := q)]
  exact List.length_filter_lt_length_iff_exists.mpr ⟨x, List.mem_filter.mpr ⟨hx, hq⟩, by simp [hp]⟩

theorem ite_eq_left_iff_of_ne {α : Type} {c : Prop} [Decidable c] {a b : α} (hb : b ≠ a) :
    (if c then a else b) = a ↔ c := by
  split
  · exact ⟨fun _ => ‹_›, fun _ => rfl⟩
  · exact ⟨fun h => absurd h hb, fun h => absurd h ‹_›⟩

end Tr
