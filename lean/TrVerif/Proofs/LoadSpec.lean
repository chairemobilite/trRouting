/-
  Proofs/LoadSpec — the vocabulary of the loader round trip (`Props/C16Load.lean`): which datasets the
  cache schema can hold (`Enc`), and the tables the loaders are proved to build from `encode ds`
  (`exp*`, `finalSch`), each written as a function of the dataset's records.
-/
import TrVerif.Model.Encode
namespace Tr.Load

def expFrom {α β : Type} (k : Nat) (g : Nat → β → α) : Nat → List β → Map α
  | _, [] => []
  | i, x :: xs => (K k i, g i x) :: expFrom k g (i+1) xs

def expIds (k n : Nat) : Map Unit := expFrom k (fun _ _ => ()) 0 (List.replicate n ())

def gLine (_ : Nat) (l : LineRec) : LLine := ⟨K 2 l.agency, modeName l.mode⟩
def expLines (ds : Dataset) : Map LLine := expFrom 4 gLine 0 ds.lines

def gPath (_ : Nat) (p : PathRec) : LPath := ⟨K 4 p.line, p.stops.map (K 1), p.dist.take p.stops.length⟩
def expPaths (ds : Dataset) : Map LPath := expFrom 5 gPath 0 ds.paths

/-- the nine lists in the loader's order (services; only lines, agencies, nodes, modes; except lines, agencies,
    nodes, modes), the two node lists empty because `Scenario` has none -/
def gScen (_ : Nat) (sc : Scenario) : LScen :=
  ⟨[sc.services.map (fun x => Val.id (K 3 x)), sc.onlyLines.map (fun x => Val.id (K 4 x)), sc.onlyAgencies.map (fun x => Val.id (K 2 x)), [],
    sc.onlyModes.map (fun x => Val.mode (modeName x)), sc.exceptLines.map (fun x => Val.id (K 4 x)),
    sc.exceptAgencies.map (fun x => Val.id (K 2 x)), [], sc.exceptModes.map (fun x => Val.mode (modeName x))]⟩
def expScen (ds : Dataset) : Map LScen := expFrom 6 gScen 0 ds.scenarios

/-- modes need no bound: `modeName` gives every number a known name -/
structure ScenInRange (nSv nL nA : Nat) (sc : Scenario) : Prop where
  sv : ∀ x ∈ sc.services, x < nSv
  ol : ∀ x ∈ sc.onlyLines, x < nL
  el : ∀ x ∈ sc.exceptLines, x < nL
  oa : ∀ x ∈ sc.onlyAgencies, x < nA
  ea : ∀ x ∈ sc.exceptAgencies, x < nA

def liftNTD (x : NTD) : NTDu := ⟨K 1 x.stop, x.time, x.dist⟩

/-- what the file of stop `a` contributes to the reverse vector of stop `b` -/
def rcontrib (ds : Dataset) (a b : Nat) : List NTDu :=
  ((ds.footOf a).filter (fun x => x.stop = b)).map (fun x => (⟨K 1 a, x.time, x.dist⟩ : NTDu)) ++
    (if a = b then [⟨K 1 b, 0, 0⟩] else [])

def rfootUpTo (ds : Dataset) (i b : Nat) : List NTDu := (List.range i).flatMap (fun a => rcontrib ds a b)

/-- stop `b` after the files of the stops `< i` were read -/
def nodeAt (ds : Dataset) (i b : Nat) : LNode :=
  ⟨if b < i then (ds.footOf b).map liftNTD else [], rfootUpTo ds i b⟩

def mkNodes (n : Nat) (F : Nat → LNode) : Map LNode := expFrom 1 (fun b _ => F b) 0 (List.replicate n ())

def expNodes (ds : Dataset) : Map LNode := mkNodes ds.nStops (nodeAt ds ds.nStops)

def liftConn (c : Conn) : LConn :=
  ⟨K 1 c.depStop, K 1 c.arrStop, c.dep, c.arr, K 7 c.trip, c.seq, c.canBoard, c.canUnboard, c.minWait⟩

def pathOfRec (ds : Dataset) (t : TripRec) : PathRec := ds.paths.getD t.path default

/-- what `encode` needs of a trip record so that nothing is dropped -/
structure TripOK (ds : Dataset) (t : TripRec) : Prop where
  path : t.path < ds.paths.length
  line : (pathOfRec ds t).line < ds.lines.length
  mode : (ds.lineRec (pathOfRec ds t).line).mode ≤ 2
  dep : t.dep.length = t.arr.length
  cb : t.cb.length = t.arr.length
  cu : t.cu.length = t.arr.length
  two : 2 ≤ t.arr.length
  stops : t.arr.length ≤ (pathOfRec ds t).stops.length
  fwd : goesBack t.arr t.dep = false
  service : t.service < ds.nServices

def gTrip (ds : Dataset) (t : TripRec) : LTrip :=
  let p := pathOfRec ds t
  ⟨K 5 t.path, K 4 p.line, K 2 (ds.lineRec p.line).agency, modeName (ds.lineRec p.line).mode, K 3 t.service⟩

def addTrip (ds : Dataset) (s : Sch) (t : TripRec) : Sch :=
  { s with trips := s.trips.emplace (K 7 t.id) (gTrip ds t), conns := s.conns ++ (ds.tripConns t).map liftConn }

def schedTrips (ds : Dataset) (li sv : Nat) : List TripRec := (tripsOfLine ds li).filter (fun t => t.service = sv)

def addLine (ds : Dataset) (s : Sch) (li : Nat) : Sch :=
  (servicesOf (tripsOfLine ds li)).foldl (fun s sv => (schedTrips ds li sv).foldl (addTrip ds) s) s

def finalSch (ds : Dataset) : Sch := (List.range' 0 ds.lines.length).foldl (addLine ds) {}

/-- the datasets the cache files hold without loss. `TripOK.mode` makes `mode ≤ 2` part of it for every line that
    has a trip: the file carries the NAME of the mode, `modeName` sends every number from 2 up to "transferable",
    and `Dataset.tripConns` tests `mode == 2`. -/
structure Enc (ds : Dataset) : Prop where
  lineAgency : ∀ l ∈ ds.lines, l.agency < ds.nAgencies
  paths : ∀ p ∈ ds.paths, p.line < ds.lines.length ∧ ∀ s ∈ p.stops, s < ds.nStops
  foot : ∀ f ∈ ds.foot, f.a < ds.nStops ∧ f.b < ds.nStops ∧ 0 ≤ f.time
  scen : ∀ sc ∈ ds.scenarios, ScenInRange ds.nServices ds.lines.length ds.nAgencies sc
  trips : ∀ t ∈ ds.trips, TripOK ds t

/-- the tables `C16_roundtrip` states -/
def expTD (ds : Dataset) : TD :=
  { agencies := expIds 2 ds.nAgencies, services := expIds 3 ds.nServices, nodes := expNodes ds,
    lines := expLines ds, paths := expPaths ds, scenarios := expScen ds,
    trips := (finalSch ds).trips, conns := (finalSch ds).conns, ub := false }

/-- trips in the order the files list them: lines in uuid order, per line the services in order of
    first appearance, per service the trips in dataset order -/
def loadTrips (ds : Dataset) : List TripRec :=
  (List.range' 0 ds.lines.length).flatMap fun li =>
    (servicesOf (tripsOfLine ds li)).flatMap fun sv => schedTrips ds li sv

end Tr.Load
