/-
  TrVerif.Proofs.Emit — the emission pass (`emit`) described denotationally (`stepsOfLegs`) and
  the accumulator lemmas that relate the two.  Used by C06 (totals) and C01 (rendering).
-/
import TrVerif.Model.Journey
import TrVerif.Spec.Totals
namespace Tr

theorem sumWalk_append (a b : List Step) : sumWalk (a ++ b) = sumWalk a + sumWalk b := by
  simp [sumWalk, List.map_append, List.sum_append]
theorem sumTransferWalk_append (a b : List Step) : sumTransferWalk (a ++ b) = sumTransferWalk a + sumTransferWalk b := by
  simp [sumTransferWalk, List.map_append, List.sum_append]
theorem sumRide_append (a b : List Step) : sumRide (a ++ b) = sumRide a + sumRide b := by
  simp [sumRide, List.map_append, List.sum_append]
theorem sumWait_append (a b : List Step) : sumWait (a ++ b) = sumWait a + sumWait b := by
  simp [sumWait, List.map_append, List.sum_append]
theorem countBoard_append (a b : List Step) : countBoard (a ++ b) = countBoard a + countBoard b := by
  simp [countBoard, List.filter_append]

@[simp] theorem countBoard_nil : countBoard [] = 0 := rfl
@[simp] theorem countBoard_board (t s st : Nat) (d w : Int) (l : List Step) :
    countBoard (.board t s st d w :: l) = countBoard l + 1 := by simp [countBoard, List.filter, Step.isBoard]
@[simp] theorem countBoard_unboard (t s st : Nat) (a i d : Int) (l : List Step) :
    countBoard (.unboard t s st a i d :: l) = countBoard l := by simp [countBoard, List.filter, Step.isBoard]
@[simp] theorem countBoard_walk (k : Nat) (a b c d e : Int) (l : List Step) :
    countBoard (.walk k a b c d e :: l) = countBoard l := by simp [countBoard, List.filter, Step.isBoard]

def boardOf (t : Int) (e : Conn) : Step := .board e.trip e.seq e.depStop e.dep (e.dep - t)
def unboardOf (ds : Dataset) (e x : Conn) : Step := .unboard e.trip x.seq x.arrStop x.arr (x.arr - e.dep) (legIvd ds e x)

/-- steps emitted for the legs (all of which have connections) followed by the egress step,
    when the traveller stands at the first boarding stop at time `t` -/
def stepsOfLegs (ds : Dataset) (mw : Int) : Int → List JStep → JStep → List Step
  | _, [], _ => []
  | t, [l], egr =>
    match l.enter, l.exit with
    | some e, some x => [boardOf t e, unboardOf ds e x, .walk 2 egr.walk egr.dist x.arr (x.arr + egr.walk) 0]
    | _, _ => []
  | t, l :: l2 :: rest, egr =>
    match l.enter, l.exit with
    | some e, some x =>
      [boardOf t e, unboardOf ds e x, .walk 1 l.walk l.dist x.arr (x.arr + l.walk) (x.arr + l.walk + nextWaitOf mw (some l2))]
        ++ stepsOfLegs ds mw (x.arr + l.walk) (l2 :: rest) egr
    | _, _ => []

def finalArrival : List JStep → JStep → Int
  | [], _ => -1
  | [l], egr => (match l.exit with | some x => x.arr | none => -1) + egr.walk
  | _ :: l2 :: rest, egr => finalArrival (l2 :: rest) egr

def AllLegs (legs : List JStep) : Prop := ∀ l ∈ legs, ∃ e x, l.enter = some e ∧ l.exit = some x
def NoXfer (ds : Dataset) (legs : List JStep) : Prop := ∀ l ∈ legs, ∀ e, l.enter = some e → ds.transferable e.trip = false

theorem finalArrival_last (egr : JStep) : ∀ (legs : List JStep) (l : JStep) (x : Conn),
    legs.getLast? = some l → l.exit = some x → finalArrival legs egr = x.arr + egr.walk := by
  intro legs
  induction legs with
  | nil => intro l x h; simp at h
  | cons a rest ih =>
    intro l x hl hx
    cases rest with
    | nil => simp at hl; subst hl; simp [finalArrival, hx]
    | cons b r =>
      rw [List.getLast?_cons_cons] at hl
      simp only [finalArrival]
      exact ih l x hl hx

variable (ds : Dataset) (mw bd : Int) (n : Nat)

/-- what one or more emission steps did to the accumulators, in terms of the steps `L` they appended
    (`nox`: no leg among them rides a `transferable` line) -/
structure StepRel (a a' : EAcc) (L : List Step) (nox : Prop) : Prop where
  steps : a'.steps = a.steps ++ L
  ivt : a'.totalIVT = a.totalIVT + sumRide L
  wait : a'.totalWait = a.totalWait + sumWait L
  accessWalk : a'.accessWalk = a.accessWalk
  walk : nox → a'.totalWalk = a.totalWalk + sumWalk L
  twalk : nox → a'.totalTransferWalk = a.totalTransferWalk + sumTransferWalk L
  nt : nox → a'.numTransfers = a.numTransfers + countBoard L

theorem StepRel.trans {a a1 a2 : EAcc} {L1 L2 : List Step} {p1 p2 : Prop}
    (h1 : StepRel a a1 L1 p1) (h2 : StepRel a1 a2 L2 p2) : StepRel a a2 (L1 ++ L2) (p1 ∧ p2) where
  steps := by rw [h2.steps, h1.steps, List.append_assoc]
  ivt := by rw [h2.ivt, h1.ivt, sumRide_append]; omega
  wait := by rw [h2.wait, h1.wait, sumWait_append]; omega
  accessWalk := by rw [h2.accessWalk, h1.accessWalk]
  walk := fun ⟨x, y⟩ => by rw [h2.walk y, h1.walk x, sumWalk_append]; omega
  twalk := fun ⟨x, y⟩ => by rw [h2.twalk y, h1.twalk x, sumTransferWalk_append]; omega
  nt := fun ⟨x, y⟩ => by rw [h2.nt y, h1.nt x, countBoard_append]; omega

def midSteps (t : Int) (js : JStep) (e x : Conn) (next : Option JStep) : List Step :=
  [boardOf t e, unboardOf ds e x, .walk 1 js.walk js.dist x.arr (x.arr + js.walk) (x.arr + js.walk + nextWaitOf mw next)]

def lastSteps (t : Int) (e x : Conn) : List Step := [boardOf t e, unboardOf ds e x]

theorem emitLeg_mid {a : EAcc} {i : Nat} {js : JStep} {next : Option JStep} {e x : Conn} (hn : i + 2 < n) :
    StepRel a (emitLeg ds mw n a i js e x next) (midSteps ds mw a.transferArr js e x next) (ds.transferable e.trip = false) := by
  constructor
  all_goals (try intro hx)
  all_goals simp [emitLeg, midSteps, boardOf, unboardOf, sumRide, sumWait, sumWalk, sumTransferWalk,
    Step.rideTime, Step.waitTime, Step.walkTime, Step.transferWalkTime, *]
  all_goals omega

theorem emitLeg_last {a : EAcc} {i : Nat} {js : JStep} {next : Option JStep} {e x : Conn} (hn : ¬ i + 2 < n) :
    StepRel a (emitLeg ds mw n a i js e x next) (lastSteps ds a.transferArr e x) (ds.transferable e.trip = false) := by
  constructor
  all_goals (try intro hx)
  all_goals simp [emitLeg, lastSteps, boardOf, unboardOf, sumRide, sumWait, sumWalk, sumTransferWalk,
    Step.rideTime, Step.waitTime, Step.walkTime, Step.transferWalkTime, *]

theorem emitEgress_rel (a : EAcc) (js : JStep) :
    StepRel a (emitEgress a js) [.walk 2 js.walk js.dist a.arrival (a.arrival + js.walk) 0] True := by
  constructor
  all_goals (try intro hx)
  all_goals simp [emitEgress, sumRide, sumWait, sumWalk, sumTransferWalk,
    Step.rideTime, Step.waitTime, Step.walkTime, Step.transferWalkTime]

theorem emitStep_leg {a : EAcc} {i : Nat} {js : JStep} {next : Option JStep} {e x : Conn}
    (h1 : js.enter = some e) (h2 : js.exit = some x) :
    emitStep ds mw bd n a i js next = emitLeg ds mw n a i js e x next := by
  simp [emitStep, h1, h2]

theorem emitStep_egress {a : EAcc} {i : Nat} {js : JStep} {next : Option JStep}
    (h1 : js.enter = none) (hi : i ≠ 0) :
    emitStep ds mw bd n a i js next = emitEgress a js := by
  simp [emitStep, h1, hi]

theorem sumWait_lastSteps (t : Int) (e x : Conn) : sumWait (lastSteps ds t e x) = e.dep - t := by
  simp [lastSteps, sumWait, boardOf, unboardOf, Step.waitTime]
theorem sumWait_midSteps (t : Int) (js : JStep) (e x : Conn) (nx : Option JStep) :
    sumWait (midSteps ds mw t js e x nx) = e.dep - t := by
  simp [midSteps, sumWait, boardOf, unboardOf, Step.waitTime]

theorem StepRel.weaken {a a' : EAcc} {L : List Step} {p q : Prop} (h : StepRel a a' L p) (hq : q → p) : StepRel a a' L q :=
  ⟨h.steps, h.ivt, h.wait, h.accessWalk, fun x => h.walk (hq x), fun x => h.twalk (hq x), fun x => h.nt (hq x)⟩

theorem NoXfer_cons {l : JStep} {rest : List JStep} {e : Conn} (he : l.enter = some e) (h : NoXfer ds (l :: rest)) :
    ds.transferable e.trip = false ∧ NoXfer ds rest :=
  ⟨h l (List.mem_cons_self ..) e he, fun y hy => h y (List.mem_cons_of_mem _ hy)⟩

theorem stepsOfLegs_one (t : Int) (egr : JStep) {l : JStep} {e x : Conn} (he : l.enter = some e) (hx : l.exit = some x) :
    stepsOfLegs ds mw t [l] egr = lastSteps ds t e x ++ [.walk 2 egr.walk egr.dist x.arr (x.arr + egr.walk) 0] := by
  simp [stepsOfLegs, he, hx, lastSteps]

theorem stepsOfLegs_cons (t : Int) (egr : JStep) {l : JStep} (l2 : JStep) (rest : List JStep) {e x : Conn}
    (he : l.enter = some e) (hx : l.exit = some x) :
    stepsOfLegs ds mw t (l :: l2 :: rest) egr
      = midSteps ds mw t l e x (some l2) ++ stepsOfLegs ds mw (x.arr + l.walk) (l2 :: rest) egr := by
  simp [stepsOfLegs, he, hx, midSteps]

/-- waiting time of the first boarding of `stepsOfLegs t legs egr` -/
def firstLegWait (t : Int) : List JStep → Int
  | [] => -1
  | l :: _ => match l.enter with
    | some e => e.dep - t
    | none => -1

/-- The leg at index 1 (right after the access step) books its wait as the first waiting time, every later one as
    transfer waiting. -/
theorem emitLoop_legs (egr : JStep) (hegr : egr.enter = none) :
    ∀ (legs : List JStep) (a : EAcc) (i : Nat), legs ≠ [] → AllLegs legs → 1 ≤ i → n = i + legs.length + 1 →
      StepRel a (emitLoop ds mw bd n (legs ++ [egr]) i a) (stepsOfLegs ds mw a.transferArr legs egr) (NoXfer ds legs) ∧
      (emitLoop ds mw bd n (legs ++ [egr]) i a).arrival = finalArrival legs egr ∧
      (emitLoop ds mw bd n (legs ++ [egr]) i a).egressWalk = egr.walk ∧
      (emitLoop ds mw bd n (legs ++ [egr]) i a).accessWait
        = (if i = 1 then firstLegWait a.transferArr legs else a.accessWait) ∧
      (emitLoop ds mw bd n (legs ++ [egr]) i a).totalTransferWait
        = a.totalTransferWait + sumWait (stepsOfLegs ds mw a.transferArr legs egr)
          - (if i = 1 then firstLegWait a.transferArr legs else 0) := by
  intro legs
  induction legs with
  | nil => intro a i h; exact absurd rfl h
  | cons l rest ih =>
    intro a i _ hall hi hn
    obtain ⟨e, x, he, hx⟩ := hall l (List.mem_cons_self ..)
    have hfw : firstLegWait a.transferArr (l :: rest) = e.dep - a.transferArr := by simp [firstLegWait, he]
    rw [hfw]
    cases rest with
    | nil =>
      have hlast : ¬ i + 2 < n := by simp at hn; omega
      have hrel := (emitLeg_last ds mw n (a := a) (js := l) (next := some egr) (e := e) (x := x) hlast).trans
        (emitEgress_rel (emitLeg ds mw n a i l e x (some egr)) egr)
      simp only [List.cons_append, List.nil_append, emitLoop, List.head?_cons, List.head?_nil,
        emitStep_leg ds mw bd n he hx, emitStep_egress ds mw bd n hegr (show i + 1 ≠ 0 by omega)]
      rw [stepsOfLegs_one ds mw _ egr he hx, sumWait_append, sumWait_lastSteps]
      refine ⟨hrel.weaken fun h => ⟨(NoXfer_cons ds he h).1, trivial⟩, ?_, rfl, rfl, ?_⟩
      · simp [emitEgress, emitLeg, finalArrival, hx]
      · simp only [emitEgress, emitLeg, sumWait, Step.waitTime, List.map_cons, List.map_nil, List.sum_cons, List.sum_nil]
        split <;> omega
    | cons l2 rest2 =>
      have hmid : i + 2 < n := by simp at hn; omega
      have h1 := emitLeg_mid ds mw n (a := a) (js := l) (next := some l2) (e := e) (x := x) hmid
      obtain ⟨r1, r2, r3, r4, r5⟩ := ih (emitLeg ds mw n a i l e x (some l2)) (i + 1) (by simp)
        (fun y hy => hall y (List.mem_cons_of_mem _ hy)) (by omega) (by simp at hn ⊢; omega)
      rw [if_neg (show i + 1 ≠ 1 by omega)] at r4 r5
      rw [show (emitLeg ds mw n a i l e x (some l2)).transferArr = x.arr + l.walk from rfl] at r1 r5
      have hstep : emitLoop ds mw bd n ((l :: l2 :: rest2) ++ [egr]) i a
          = emitLoop ds mw bd n ((l2 :: rest2) ++ [egr]) (i + 1) (emitLeg ds mw n a i l e x (some l2)) := by
        simp [emitLoop, emitStep_leg ds mw bd n he hx]
      rw [hstep, stepsOfLegs_cons ds mw _ egr l2 rest2 he hx, sumWait_append, sumWait_midSteps, r4, r5]
      refine ⟨(h1.trans r1).weaken fun h => NoXfer_cons ds he h, by rw [r2]; simp [finalArrival], r3, rfl, ?_⟩
      show (if i = 1 then a.totalTransferWait else a.totalTransferWait + (e.dep - a.transferArr)) + _ - 0 = _
      split <;> omega

theorem stepsOfLegs_head (egr : JStep) (l : JStep) (rest : List JStep) (t : Int) (e x : Conn)
    (he : l.enter = some e) (hx : l.exit = some x) :
    ∃ tail, stepsOfLegs ds mw t (l :: rest) egr = boardOf t e :: tail := by
  cases rest <;> simp [stepsOfLegs, he, hx]

/-- Induction over the rendering of a non-empty list of legs.  In `cons`, `S` is the rendering of the rest; it starts
    - with the boarding of the next leg - at the moment the walk ends. -/
theorem stepsOfLegs_induction (egr : JStep) {P : Int → List JStep → List Step → Prop}
    (last : ∀ t l e x, l.enter = some e → l.exit = some x →
      P t [l] (lastSteps ds t e x ++ [.walk 2 egr.walk egr.dist x.arr (x.arr + egr.walk) 0]))
    (cons : ∀ t l e x l2 rest S, l.enter = some e → l.exit = some x →
      (∃ e2 tl, l2.enter = some e2 ∧ S = boardOf (x.arr + l.walk) e2 :: tl) → P (x.arr + l.walk) (l2 :: rest) S →
      P t (l :: l2 :: rest) (midSteps ds mw t l e x (some l2) ++ S)) :
    ∀ (legs : List JStep) (t : Int), legs ≠ [] → AllLegs legs → P t legs (stepsOfLegs ds mw t legs egr) := by
  intro legs
  induction legs with
  | nil => intro t h; exact absurd rfl h
  | cons l rest ih =>
    intro t _ hall
    obtain ⟨e, x, he, hx⟩ := hall l (List.mem_cons_self ..)
    cases rest with
    | nil => rw [stepsOfLegs_one ds mw t egr he hx]; exact last t l e x he hx
    | cons l2 r2 =>
      have hall2 : AllLegs (l2 :: r2) := fun y hy => hall y (List.mem_cons_of_mem _ hy)
      obtain ⟨e2, x2, he2, hx2⟩ := hall2 l2 (List.mem_cons_self ..)
      obtain ⟨tl, htl⟩ := stepsOfLegs_head ds mw egr l2 r2 (x.arr + l.walk) e2 x2 he2 hx2
      rw [stepsOfLegs_cons ds mw t egr l2 r2 he hx]
      exact cons t l e x l2 r2 _ he hx ⟨e2, tl, he2, htl⟩ (ih _ (by simp) hall2)

theorem stepsOfLegs_shape (egr : JStep) : ∀ (legs : List JStep) (t : Int), legs ≠ [] → AllLegs legs →
    ridesShape (stepsOfLegs ds mw t legs egr) :=
  stepsOfLegs_induction ds mw egr (P := fun _ _ S => ridesShape S)
    (fun _ _ _ _ _ _ => by simp [lastSteps, ridesShape, boardOf, unboardOf])
    (fun _ _ _ _ _ _ _ _ _ _ h => by simpa [midSteps, ridesShape, boardOf, unboardOf] using h)

theorem stepsOfLegs_chain (mwOf : Nat → Int) (egr : JStep) :
    ∀ (legs : List JStep) (t : Int), legs ≠ [] → AllLegs legs →
      (∀ l ∈ legs, ∀ e, l.enter = some e → e.effWait mw = mwOf e.trip) →
      chainFrom mwOf t (stepsOfLegs ds mw t legs egr) (finalArrival legs egr) := by
  refine stepsOfLegs_induction ds mw egr (P := fun t legs S =>
    (∀ l ∈ legs, ∀ e, l.enter = some e → e.effWait mw = mwOf e.trip) → chainFrom mwOf t S (finalArrival legs egr)) ?_ ?_
  · intro t l e x _ hx _
    simp [lastSteps, chainFrom, boardOf, unboardOf, finalArrival, hx]
  · intro t l e x l2 rest S _ _ ⟨e2, tl, he2, hS⟩ ih hmw
    have hm2 : e2.effWait mw = mwOf e2.trip := hmw l2 (List.mem_cons_of_mem _ (List.mem_cons_self ..)) e2 he2
    simp only [midSteps, List.cons_append, List.nil_append, chainFrom, boardOf, unboardOf, finalArrival]
    refine ⟨trivial, trivial, trivial, trivial, ?_, ih fun y hy => hmw y (List.mem_cons_of_mem _ hy)⟩
    -- the walk's ready time counts the minimum waiting time of the trip boarded next
    intro _ trip seq stop bdep w hhead
    rw [hS] at hhead
    simp [boardOf] at hhead
    simp [nextWaitOf, he2, hm2, hhead.1]

theorem stepsOfLegs_sum (egr : JStep) : ∀ (legs : List JStep) (t : Int), legs ≠ [] → AllLegs legs →
    sumWalk (stepsOfLegs ds mw t legs egr) + sumRide (stepsOfLegs ds mw t legs egr) + sumWait (stepsOfLegs ds mw t legs egr)
      = finalArrival legs egr - t := by
  refine stepsOfLegs_induction ds mw egr
    (P := fun t legs S => sumWalk S + sumRide S + sumWait S = finalArrival legs egr - t) ?_ ?_
  · intro t l e x _ hx
    simp [lastSteps, sumWalk, sumRide, sumWait, boardOf, unboardOf, finalArrival, hx,
      Step.walkTime, Step.rideTime, Step.waitTime]
    omega
  · intro t l e x l2 rest S _ _ _ ih
    simp only [sumWalk_append, sumRide_append, sumWait_append, finalArrival]
    simp [midSteps, sumWalk, sumRide, sumWait, boardOf, unboardOf, Step.walkTime, Step.rideTime, Step.waitTime] at ih ⊢
    omega

theorem stepsOfLegs_getLast (egr : JStep) : ∀ (legs : List JStep) (t : Int), legs ≠ [] → AllLegs legs →
    ∃ a b, (stepsOfLegs ds mw t legs egr).getLast? = some (.walk 2 egr.walk egr.dist a b 0) :=
  stepsOfLegs_induction ds mw egr (P := fun _ _ S => ∃ a b, S.getLast? = some (.walk 2 egr.walk egr.dist a b 0))
    (fun _ _ _ x _ _ => ⟨x.arr, x.arr + egr.walk, by simp⟩)
    (fun _ _ _ _ _ _ _ _ _ _ ⟨a, b, h⟩ => ⟨a, b, by rw [List.getLast?_append, h]; simp⟩)

theorem stepsOfLegs_count (egr : JStep) : ∀ (legs : List JStep) (t : Int), legs ≠ [] → AllLegs legs →
    countBoard (stepsOfLegs ds mw t legs egr) = legs.length :=
  stepsOfLegs_induction ds mw egr (P := fun _ legs S => countBoard S = legs.length)
    (fun _ _ _ _ _ _ => by simp [lastSteps, boardOf, unboardOf])
    (fun _ _ _ _ _ _ _ _ _ _ h => by simp [midSteps, h, boardOf, unboardOf])

theorem stepsOfLegs_firstWait (egr : JStep) (legs : List JStep) (t : Int) (hne : legs ≠ []) (hall : AllLegs legs) :
    firstWait (stepsOfLegs ds mw t legs egr) = firstLegWait t legs := by
  cases legs with
  | nil => exact absurd rfl hne
  | cons l rest =>
    obtain ⟨e, x, he, hx⟩ := hall l (List.mem_cons_self ..)
    cases rest <;> simp [stepsOfLegs, he, hx, firstWait, firstLegWait, boardOf, List.filter, Step.isBoard, Step.waitTime]

theorem emit_loop (acc egr : JStep) (legs : List JStep) (hacc : acc.enter = none) (hegr : egr.enter = none)
    (hne : legs ≠ []) (hall : AllLegs legs) :
    ∃ a', emitLoop ds mw bd ([acc] ++ legs ++ [egr]).length ([acc] ++ legs ++ [egr]) 0 {} = a' ∧
      StepRel (emitAccess mw bd {} acc legs.head?) a' (stepsOfLegs ds mw (bd + acc.walk) legs egr) (NoXfer ds legs) ∧
      a'.arrival = finalArrival legs egr ∧ a'.egressWalk = egr.walk ∧
      a'.accessWait = firstLegWait (bd + acc.walk) legs ∧
      a'.totalTransferWait = sumWait (stepsOfLegs ds mw (bd + acc.walk) legs egr) - firstLegWait (bd + acc.walk) legs := by
  obtain ⟨l1, rest, rfl⟩ := List.exists_cons_of_ne_nil hne
  refine ⟨_, rfl, ?_⟩
  have hloop : emitLoop ds mw bd ([acc] ++ (l1 :: rest) ++ [egr]).length ([acc] ++ (l1 :: rest) ++ [egr]) 0 {}
      = emitLoop ds mw bd ([acc] ++ (l1 :: rest) ++ [egr]).length ((l1 :: rest) ++ [egr]) 1
          (emitAccess mw bd {} acc (some l1)) := by
    simp [emitLoop, emitStep, hacc]
  have h := emitLoop_legs ds mw bd _ egr hegr (l1 :: rest) (emitAccess mw bd {} acc (some l1)) 1 hne hall
    (Nat.le_refl 1) (show ([acc] ++ (l1 :: rest) ++ [egr]).length = 1 + (l1 :: rest).length + 1 by simp; omega)
  rw [← hloop, if_pos rfl, if_pos rfl] at h
  simpa [emitAccess] using h

theorem emit_steps (acc egr : JStep) (legs : List JStep) (hacc : acc.enter = none) (hegr : egr.enter = none)
    (hne : legs ≠ []) (hall : AllLegs legs) :
    (emit ds mw bd ([acc] ++ legs ++ [egr])).steps =
      .walk 0 acc.walk acc.dist bd (bd + acc.walk) (bd + acc.walk + nextWaitOf mw legs.head?)
        :: stepsOfLegs ds mw (bd + acc.walk) legs egr ∧
    (emit ds mw bd ([acc] ++ legs ++ [egr])).departureTime = bd := by
  obtain ⟨a', ha', rel, _⟩ := emit_loop ds mw bd acc egr legs hacc hegr hne hall
  refine ⟨?_, rfl⟩
  simp only [emit, ha', rel.steps]
  simp [emitAccess]

theorem emit_arrival (acc egr : JStep) (legs : List JStep) (hacc : acc.enter = none)
    (hegr : egr.enter = none) (hne : legs ≠ []) (hall : AllLegs legs) :
    (emit ds mw bd ([acc] ++ legs ++ [egr])).arrivalTime = finalArrival legs egr := by
  obtain ⟨a', ha', _, harr, _⟩ := emit_loop ds mw bd acc egr legs hacc hegr hne hall
  simp only [emit, ha', harr]

end Tr
