/-
  Proofs/LoadSched — round trip of the per-line schedule files: `getSchedules` on `encode ds` creates,
  trip by trip, exactly the connections `Dataset.tripConns` describes (stop i -> stop i+1, departure
  of i, arrival of i+1, boarding flag of i, alighting flag of i+1, sequence i+1, minimum waiting 0
  for a `transferable` line) — in the order lines / services / trips of the files.
-/
import TrVerif.Proofs.LoadNodes
namespace Tr.Load

theorem b2i_eq (b : Bool) : (b2i b == 1) = b := by cases b <;> rfl

theorem connLoop_enc (t : TripRec) (stops : List Nat) (mw : Int) (hd : t.dep.length = t.arr.length)
    (hb : t.cb.length = t.arr.length) (hu : t.cu.length = t.arr.length) :
    ∀ (n i : Nat), i + n + 1 ≤ stops.length → i + n + 1 ≤ t.arr.length →
      connLoop (K 7 t.id) mw (stops.map (K 1)) (encTrip t) i n = .val ((tripConnsAux t stops mw i n).map liftConn)
  | 0, _, _, _ => rfl
  | n+1, i, hs, ha => by
    have ih := connLoop_enc t stops mw hd hb hu n (i+1) (by omega) (by omega)
    simp only [encTrip] at ih
    -- all six reads are in range
    simp (disch := omega) only [connLoop, tripConnsAux, encTrip, List.getElem?_map, List.getElem?_eq_getElem, Option.map_some, ih,
      List.map_cons, liftConn, b2i_eq, List.getD_eq_getElem?_getD, Option.getD_some]

theorem tripCountsOk_enc (ds : Dataset) (t : TripRec) (h : TripOK ds t) :
    tripCountsOk (encTrip t) (gPath t.path (pathOfRec ds t)) = true := by
  have h1 := h.two; have h2 := h.stops; have h3 := h.dep; have h4 := h.cb; have h5 := h.cu
  simp [tripCountsOk, encTrip, gPath]
  refine ⟨⟨⟨⟨?_, ?_⟩, ?_⟩, ?_⟩, ?_⟩ <;> first | omega | (apply decide_eq_false; omega)

theorem mw_enc (m : Nat) (h : m ≤ 2) : (if modeName m = "transferable" then (0 : Int) else -1) = if (m == 2) = true then 0 else -1 := by
  have : m = 0 ∨ m = 1 ∨ m = 2 := by omega
  rcases this with rfl | rfl | rfl <;> decide

theorem fileLoop_trip (ds : Dataset) (services : Map Unit) {li sv : Nat} (t : TripRec) (h : TripOK ds t)
    (hli : (pathOfRec ds t).line = li) (hsv : t.service = sv) (rest : List LItem) (s : Sch) :
    fileLoop (K 4 li) (gLine 0 (ds.lineRec li)) services (expPaths ds) (LItem.trip (encTrip t) :: rest) (some (K 3 sv)) s =
      fileLoop (K 4 li) (gLine 0 (ds.lineRec li)) services (expPaths ds) rest (some (K 3 sv)) (addTrip ds s t) := by
  subst hli hsv
  have hget : (expPaths ds).get? (K 5 t.path) = some (gPath t.path (pathOfRec ds t)) := by
    unfold expPaths
    rw [expFrom_get]
    simp [pathOfRec, List.getD_eq_getElem?_getD, List.getElem?_eq_getElem h.path]
  -- `fileLoop.eq_4`: a trip record inside a schedule, whose uuid and path uuid both parse
  rw [fileLoop.eq_4 _ _ _ _ _ _ _ _ _ _ (rfl : (encTrip t).uuid.parse = some (K 7 t.id))
    (rfl : (encTrip t).path.parse = some (K 5 t.path))]
  simp only [hget]
  rw [if_neg (by simp [tripCountsOk_enc ds t h]),
    if_neg (by simp [show goesBack (encTrip t).arr (encTrip t).dep = false from h.fwd])]
  simp only [gPath, show (encTrip t).arr.length = t.arr.length from rfl]
  have h2 := h.two; have hs := h.stops
  rw [connLoop_enc t _ _ h.dep h.cb h.cu _ 0 (by omega) (by omega),
    show (if (gLine 0 (ds.lineRec (pathOfRec ds t).line)).mode = "transferable" then (0 : Int) else -1) =
      if ((ds.lineRec (pathOfRec ds t).line).mode == 2) = true then 0 else -1 from mw_enc _ h.mode]
  rfl

theorem fileLoop_trips (ds : Dataset) (services : Map Unit) (li : Nat) (sv : Nat) :
    ∀ (l : List TripRec) (rest : List LItem) (s : Sch),
      (∀ t ∈ l, TripOK ds t ∧ (pathOfRec ds t).line = li ∧ t.service = sv) →
      fileLoop (K 4 li) (gLine 0 (ds.lineRec li)) services (expPaths ds) (l.map (fun t => LItem.trip (encTrip t)) ++ rest) (some (K 3 sv)) s =
      fileLoop (K 4 li) (gLine 0 (ds.lineRec li)) services (expPaths ds) rest (some (K 3 sv)) (l.foldl (addTrip ds) s)
  | [], _, _, _ => rfl
  | t :: l, rest, s, h => by
    obtain ⟨hok, hli, hsv⟩ := h t List.mem_cons_self
    simp only [List.map_cons, List.cons_append, List.foldl_cons]
    rw [fileLoop_trip ds services t hok hli hsv]
    exact fileLoop_trips ds services li sv l rest _ fun x hx => h x (List.mem_cons_of_mem _ hx)

theorem fileLoop_scheds (ds : Dataset) (services : Map Unit) (li : Nat)
    (hsv : ∀ a, services.has (K 3 a) = decide (a < ds.nServices)) (hall : ∀ t ∈ ds.trips, TripOK ds t) :
    ∀ (svs : List Nat) (svc : Option Nat) (s : Sch), (∀ sv ∈ svs, sv < ds.nServices) →
      fileLoop (K 4 li) (gLine 0 (ds.lineRec li)) services (expPaths ds) (svs.flatMap (encSchedule (tripsOfLine ds li))) svc s =
      (false, svs.foldl (fun s sv => (schedTrips ds li sv).foldl (addTrip ds) s) s)
  | [], svc, s, _ => by simp [fileLoop]
  | sv :: svs, svc, s, h => by
    simp only [List.flatMap_cons, encSchedule, List.cons_append, List.nil_append, List.foldl_cons]
    -- the schedule record of a known service (`eq_3`), then the period record (`eq_2`)
    rw [fileLoop.eq_3]
    simp only [UTok.parse]
    rw [if_pos (by rw [hsv]; simpa using h sv List.mem_cons_self), fileLoop.eq_2]
    rw [fileLoop_trips ds services li sv _ _ s (by
      intro t ht
      simp only [List.mem_filter, tripsOfLine, decide_eq_true_eq] at ht
      exact ⟨hall t ht.1.1, ht.1.2, ht.2⟩)]
    exact fileLoop_scheds ds services li hsv hall svs _ _ fun x hx => h x (List.mem_cons_of_mem _ hx)

theorem servicesOf_lt (ds : Dataset) (li : Nat) (hall : ∀ t ∈ ds.trips, TripOK ds t) :
    ∀ sv ∈ servicesOf (tripsOfLine ds li), sv < ds.nServices := by
  intro sv hsv
  simp only [servicesOf, List.mem_eraseDups, List.mem_map, tripsOfLine, List.mem_filter] at hsv
  obtain ⟨t, ht, rfl⟩ := hsv
  exact (hall t ht.1).service

theorem lineFiles_lookup (ds : Dataset) : ∀ (n j i : Nat),
    lookupFile (lineFilesFrom ds j n) (K 4 i) = if j ≤ i ∧ i < j + n then some (some (encLineFile ds i)) else none :=
  filesFrom_lookup 4 (lineFilesFrom ds) (fun i => some (encLineFile ds i)) (fun _ => rfl) (fun _ _ => rfl)

theorem schedLoop_enc (ds : Dataset) (services : Map Unit)
    (hsv : ∀ a, services.has (K 3 a) = decide (a < ds.nServices)) (hall : ∀ t ∈ ds.trips, TripOK ds t) :
    ∀ (ls : List LineRec) (i : Nat) (s : Sch), i + ls.length = ds.lines.length → (∀ j, ls[j]? = ds.lines[i + j]?) →
      schedLoop (lineFilesFrom ds 0 ds.lines.length) services (expPaths ds) (expFrom 4 gLine i ls) s =
      (List.range' i ls.length).foldl (addLine ds) s
  | [], _, _, _, _ => rfl
  | l :: ls, i, s, hlen, hsub => by
    have hlen : i + ls.length + 1 = ds.lines.length := hlen
    have h0 : some l = ds.lines[i]? := hsub 0
    have hl : ds.lineRec i = l := by simp [Dataset.lineRec, List.getD_eq_getElem?_getD, ← h0]
    simp only [expFrom, List.length_cons, List.range'_succ, List.foldl_cons]
    rw [schedLoop.eq_2, lineFiles_lookup, if_pos (by omega)]
    simp only
    -- `gLine` ignores the index
    rw [show gLine i l = gLine 0 (ds.lineRec i) from hl ▸ rfl, encLineFile,
      fileLoop_scheds ds services i hsv hall _ none s (servicesOf_lt ds i hall)]
    exact schedLoop_enc ds services hsv hall ls (i+1) _ (by omega) fun j =>
      (hsub (j+1)).trans (congrArg (ds.lines[·]?) (by omega))

end Tr.Load
