/-
  Property C12, "the same status and reason" for route queries on the domains of C03 / C04.
  A failed query fails on the shifted side with the same reason: the outcome is never `exception`, a
  route is returned on one side iff on the other (`C12_departure`, `C12_arrival`), and the reason of a
  failure is determined by conditions on the data (C07) that are translation invariant - the router's
  tables do not move, and a connection is "caught" before the shift iff its image is caught after it.
-/
import TrVerif.Props.C12Shift
import TrVerif.Props.C07SecondPass
namespace Tr

theorem init_tent_shift {cx cx' : Ctx} (k : Int) (hacc : cx.accessFoot = cx'.accessFoot) (hd : cx'.depT = cx.depT + k)
    (hnd : (cx.accessFoot.map (·.stop)).Nodup) (y : Nat) :
    ((FState.init cx).tent y = MAX_INT ∧ (FState.init cx').tent y = MAX_INT) ∨
    (FState.init cx').tent y = (FState.init cx).tent y + k := by
  by_cases h : ∃ a ∈ cx.accessFoot, a.stop = y
  · obtain ⟨a, ha, hay⟩ := h
    right
    rw [← hay, init_tent_access cx hnd ha, init_tent_access cx' (hacc ▸ hnd) (hacc ▸ ha), hd]
    omega
  · left
    have hn : ∀ a ∈ cx.accessFoot, a.stop ≠ y := fun a ha hay => h ⟨a, ha, hay⟩
    exact ⟨init_tent_none cx y hn, init_tent_none cx' y (hacc ▸ hn)⟩

theorem CaughtF.shift {cx cx' : Ctx} (k : Int) (h : CtxSame cx cx') (hd : cx'.depT = cx.depT + k)
    (hmt : cx.p.maxTotal = cx'.p.maxTotal) (hmf : cx.p.maxFirstWait = cx'.p.maxFirstWait)
    (hnd : (cx.accessFoot.map (·.stop)).Nodup) {c : Conn} (hb0 : c.dep < MAX_INT) (hmw : 0 ≤ cx.p.minWait)
    (hC : CaughtF cx c) : CaughtF cx' (shiftConn k c) := by
  obtain ⟨h1, h2, h3, h4, h5⟩ := hC
  have hw := effWait_nonneg c cx.p.minWait hmw
  rcases init_tent_shift k h.acc hd hnd c.depStop with ⟨t1, t2⟩ | t1
  · -- not accessible: not caught at all
    rw [t1] at h4
    omega
  · refine ⟨?_, by show cx'.disabled c.trip = false; rw [← h.dis]; exact h2, ?_, ?_, ?_⟩
    · show c.dep + k ≥ cx'.depT + cx'.minAccess
      rw [minAccess_same h, hd]; omega
    · show c.dep + k - cx'.depT ≤ cx'.p.maxTotal
      rw [← hmt, hd]; omega
    · show (FState.init cx').tent c.depStop ≤ c.dep + k - c.effWait cx'.p.minWait
      rw [t1, ← h.mw]; omega
    · rcases h5 with h5 | h5
      · left
        show ¬ (decide (cx'.p.maxFirstWait > 0) && ((cx'.nodesAccess c.depStop).any fun a => decide (a.time ≥ 0))) = true
        rw [← hmf, nodesAccess_same h]; exact h5
      · right
        show c.dep + k - (FState.init cx').tent c.depStop ≤ cx'.p.maxFirstWait
        rw [t1, ← hmf]; omega

theorem CaughtF.shift_iff {cx cx' : Ctx} (k : Int) (h : CtxSame cx cx') (hd : cx'.depT = cx.depT + k)
    (hmt : cx.p.maxTotal = cx'.p.maxTotal) (hmf : cx.p.maxFirstWait = cx'.p.maxFirstWait)
    (hnd : (cx.accessFoot.map (·.stop)).Nodup) {c : Conn} (hb0 : c.dep < MAX_INT) (hb0' : c.dep + k < MAX_INT)
    (hmw : 0 ≤ cx.p.minWait) : CaughtF cx' (shiftConn k c) ↔ CaughtF cx c :=
  ⟨fun hC => shiftConn_neg k c ▸ hC.shift (-k) h.symm (by omega) hmt.symm hmf.symm (h.acc ▸ hnd) hb0' (h.mw ▸ hmw),
   CaughtF.shift k h hd hmt hmf hnd hb0 hmw⟩

theorem nothing_caughtF_shift (ds : Dataset) (p : Params) (k : Int) (a e : List NTD) (hal : TripsAligned ds)
    (hmw : 0 ≤ p.minWait) (htb : TimesBounded ds) (htb' : TimesBounded (shiftDs k ds)) (hnd : (a.map (·.stop)).Nodup) :
    (∀ c ∈ ((shiftDs k ds).connSetOf ((shiftDs k ds).scenarioOf (shiftP k p))).fwd,
        ¬ CaughtF (qCtx (shiftDs k ds) (shiftP k p) a e (p.time + k) (-1)) c) ↔
      ∀ c ∈ (ds.connSetOf (ds.scenarioOf p)).fwd, ¬ CaughtF (qCtx ds p a e p.time (-1)) c := by
  show (∀ c ∈ ((shiftDs k ds).connSetOf (ds.scenarioOf p)).fwd, _) ↔ _
  rw [forall_fwd_shift hal]
  refine forall₂_congr fun c hc => not_congr ?_
  have hc' := mem_fwd_shift k ds hal _ c hc
  exact CaughtF.shift_iff k (ctxSame_shift k ds p a e _ _ _ _) rfl rfl rfl hnd (htb c (mem_connSetOf_fwd.mp hc).1)
    (htb' _ (mem_connSetOf_fwd.mp hc').1) hmw

/-- **C12, status and reason of departure-time route queries on the domain of C03.** A query that
    fails, fails on the shifted side with the same reason. -/
theorem C12_departure_reason (ds : Dataset) (p : Params) (k : Int) (D : C03Dom ds p) (hal : TripsAligned ds)
    (R : ShiftInRange ds p k) (r : Reason) (h : calculateSingle ds p = .noRouting r) :
    calculateSingle (shiftDs k ds) (shiftP k p) = .noRouting r := by
  have D' := D.shift hal R
  cases h' : calculateSingle (shiftDs k ds) (shiftP k p) with
  | ok r' =>
    obtain ⟨r0, hr0⟩ := (C12_departure ds p k D hal R).2 r' h'
    rw [h] at hr0; cases hr0
  | exception w =>
    exact absurd h' (calculateSingle_no_exception _ D'.wf D'.pos D'.r1 D'.r2 D'.acc _ D'.mw D'.mt w)
  | noRouting r' =>
    exact congrArg _ ((calculateSingleWith_reason h' (.inl ⟨rfl, rfl⟩)
        (fun ha he => (C07_route_no_service_from_origin (shiftDs k ds) (shiftP k p) D'.fwd D'.t0 D'.t32 ha he D'.acc).trans
          (nothing_caughtF_shift ds p k _ _ hal D.mw D.tb D'.tb (routerLookup_nodup _ _ D.accNd)))
        (C07_departure_never_to_destination (shiftDs k ds) D'.wf (shiftP k p) D'.fwd D'.mw D'.mt D'.tb D'.acc D'.egr D'.egrNd)).trans
      (calculateSingleWith_reason h (.inl ⟨rfl, rfl⟩)
        (fun ha he => C07_route_no_service_from_origin ds p D.fwd D.t0 D.t32 ha he D.acc)
        (C07_departure_never_to_destination ds D.wf p D.fwd D.mw D.mt D.tb D.acc D.egr D.egrNd)).symm)

theorem CaughtR.shift {cx cx' : Ctx} (k : Int) (h : CtxSame cx cx') (ha : cx'.arrT = cx.arrT + k)
    (hmt : cx.p.maxTotal = cx'.p.maxTotal) (hnd : cx.EgrNodup) (single : Bool) {c : Conn} (h0 : 0 ≤ c.arr)
    (hC : CaughtR cx single c) : CaughtR cx' single (shiftConn k c) := by
  obtain ⟨h1, h2, h3, h4⟩ := hC
  refine ⟨?_, by show cx'.disabled c.trip = false; rw [← h.dis]; exact h2, ?_, ?_⟩
  · show c.arr + k ≤ cx'.arrT - (if single = true then cx'.minEgress else 0)
    rw [minEgress_same h, ha]; omega
  · show cx'.arrT - (c.arr + k) ≤ cx'.p.maxTotal
    rw [← hmt, ha]; omega
  · show c.arr + k ≤ (RState.init cx').lab c.arrStop
    by_cases hg : ∃ g ∈ cx.egressFoot, g.stop = c.arrStop
    · obtain ⟨g, hgm, hgs⟩ := hg
      have l1 := init_lab_egress hnd hgm
      have l2 := init_lab_egress (cx := cx') (by unfold Ctx.EgrNodup; rw [← h.egr]; exact hnd) (h.egr ▸ hgm)
      rw [hgs] at l1 l2
      rw [l1] at h4
      rw [l2, ha]; omega
    · exfalso
      have := init_lab_none cx c.arrStop (fun g hgm hgs => hg ⟨g, hgm, hgs⟩)
      rw [this] at h4
      omega

theorem CaughtR.shift_iff {cx cx' : Ctx} (k : Int) (h : CtxSame cx cx') (ha : cx'.arrT = cx.arrT + k)
    (hmt : cx.p.maxTotal = cx'.p.maxTotal) (hnd : cx.EgrNodup) (single : Bool) {c : Conn} (h0 : 0 ≤ c.arr)
    (h0' : 0 ≤ c.arr + k) : CaughtR cx' single (shiftConn k c) ↔ CaughtR cx single c :=
  ⟨fun hC => shiftConn_neg k c ▸ hC.shift (-k) h.symm (by omega) hmt.symm
      (by unfold Ctx.EgrNodup; rw [← h.egr]; exact hnd) single h0',
   CaughtR.shift k h ha hmt hnd single h0⟩

theorem nothing_caughtR_shift (ds : Dataset) (p : Params) (k : Int) (a e : List NTD) (single : Bool) (hal : TripsAligned ds)
    (hnn : NonnegArr ds) (hnn' : NonnegArr (shiftDs k ds)) (hnd : (e.map (·.stop)).Nodup) :
    (∀ c ∈ ((shiftDs k ds).connSetOf ((shiftDs k ds).scenarioOf (shiftP k p))).rev,
        ¬ CaughtR (qCtx (shiftDs k ds) (shiftP k p) a e (-1) (p.time + k)) single c) ↔
      ∀ c ∈ (ds.connSetOf (ds.scenarioOf p)).rev, ¬ CaughtR (qCtx ds p a e (-1) p.time) single c := by
  show (∀ c ∈ ((shiftDs k ds).connSetOf (ds.scenarioOf p)).rev, _) ↔ _
  rw [forall_rev_shift hal]
  refine forall₂_congr fun c hc => not_congr ?_
  have hc' := mem_rev_shift k ds hal _ c hc
  exact CaughtR.shift_iff k (ctxSame_shift k ds p a e _ _ _ _) rfl rfl hnd single (hnn c (mem_connSetOf_rev.mp hc).1)
    (hnn' _ (mem_connSetOf_rev.mp hc').1)

/-- **C12, status and reason of arrival-time route queries on the domain of C04**, for data whose arrival times
    are non-negative on both sides (`NonnegArr`: the reverse labels use -1 for "unreached").  A query that
    fails, fails on the shifted side with the same reason - unless the shifted side returns a
    route that, moved back, would leave before 0:00 (then the two answers are not both in range,
    and the property does not speak). -/
theorem C12_arrival_reason (ds : Dataset) (p : Params) (k : Int) (D : C04Dom ds p) (hal : TripsAligned ds)
    (R : ShiftInRange ds p k) (hnn : NonnegArr ds) (hnn' : NonnegArr (shiftDs k ds))
    (r : Reason) (h : calculateSingle ds p = .noRouting r) :
    calculateSingle (shiftDs k ds) (shiftP k p) = .noRouting r ∨
      ∃ r', calculateSingle (shiftDs k ds) (shiftP k p) = .ok r' ∧ r'.departureTime + -k < 0 := by
  have D' := D.shift hal R
  cases h' : calculateSingle (shiftDs k ds) (shiftP k p) with
  | ok r' =>
    right
    refine ⟨r', rfl, ?_⟩
    apply Classical.byContradiction
    intro hlt
    obtain ⟨r0, hr0, _⟩ := (C12_arrival ds p k D hal R).2 r' h' (by omega)
    rw [h] at hr0; cases hr0
  | exception w =>
    exact absurd h' (calculateSingle_no_exception _ D'.wf D'.pos D'.r1 D'.r2 D'.acc _ D'.mw D'.mt w)
  | noRouting r' =>
    left
    exact congrArg _ ((calculateSingleWith_reason h' (.inr ⟨rfl, rfl⟩)
        (fun ha he => (C07_route_no_service_to_destination (shiftDs k ds) (shiftP k p) D'.rev D'.t0 ha he D'.egr).trans
          (nothing_caughtR_shift ds p k _ _ true hal hnn hnn' (routerLookup_nodup _ _ D.egrNd)))
        (C07_arrival_never_from_origin (shiftDs k ds) (shiftP k p) D'.rev)).trans
      (calculateSingleWith_reason h (.inr ⟨rfl, rfl⟩)
        (fun ha he => C07_route_no_service_to_destination ds p D.rev D.t0 ha he D.egr)
        (C07_arrival_never_from_origin ds p D.rev)).symm)

end Tr
