/-
  Property C07 — a no_routing_found answer carries the most specific reason that is true.
  Here: the decision structure that does not depend on what the scans find (which exception
  `reset` raises for which emptiness pattern of the walking-router tables; NO_SERVICE_* exactly
  when the scan of the direction counts nothing; which string each reason is rendered to).
  "Counts nothing" is characterised by the connections of the data in `Props/C07Scan.lean`
  (forward scans) and `Props/C07Rev.lean` (reverse scans).
-/
import TrVerif.Model.Render
import TrVerif.Proofs.Tables
namespace Tr

/-- reason strings of `/v2/route` (switch of `result_to_v2.cpp`, regenerated every run) -/
theorem C07_route_strings :
    routeReasonString .noRoutingFound = "NO_ROUTING_FOUND" ∧
    routeReasonString .noAccessAtOrigin = "NO_ACCESS_AT_ORIGIN" ∧
    routeReasonString .noAccessAtDestination = "NO_ACCESS_AT_DESTINATION" ∧
    routeReasonString .noServiceFromOrigin = "NO_SERVICE_FROM_ORIGIN" ∧
    routeReasonString .noServiceToDestination = "NO_SERVICE_TO_DESTINATION" ∧
    routeReasonString .noAccessAtOriginAndDestination = "NO_ACCESS_AT_ORIGIN_AND_DESTINATION" := by decide

theorem C07_accessibility_strings :
    accReasonString .noAccessAtOrigin = "NO_ACCESS_AT_PLACE" ∧
    accReasonString .noAccessAtDestination = "NO_ACCESS_AT_PLACE" ∧
    accReasonString .noServiceFromOrigin = "NO_SERVICE_AT_PLACE" ∧
    accReasonString .noServiceToDestination = "NO_SERVICE_AT_PLACE" ∧
    accReasonString .noRoutingFound = "NO_ROUTING_FOUND" := by decide

/-- the enum the tables are indexed by has the order the model's `reasonIndex` assumes -/
theorem C07_enum_order :
    Gen.reasonEnum = ["NO_ROUTING_FOUND", "NO_ACCESS_AT_ORIGIN", "NO_ACCESS_AT_DESTINATION", "NO_SERVICE_FROM_ORIGIN",
      "NO_SERVICE_TO_DESTINATION", "NO_ACCESS_AT_ORIGIN_AND_DESTINATION"] := by decide

/-- the context of the scans of `calculateSingle` / `calculateAllNodes`; a departure-time calculation has `dT = p.time`,
    `aT = -1`, an arrival-time one `dT = -1`, `aT = p.time` -/
abbrev qCtx (ds : Dataset) (p : Params) (a e : List NTD) (dT aT : Int) : Ctx :=
  mkCtx (ds.restrict (ds.connSetOf (ds.scenarioOf p))) p (ds.connSetOf (ds.scenarioOf p)) a e dT aT

theorem reverseJourney_reason (cx : Ctx) (s : RState) (b : Option (Int × Nat)) (r : Reason)
    (h : reverseJourney cx s b = .noRouting r) : r = .noRoutingFound := by
  unfold reverseJourney at h
  split at h
  · cases h; rfl
  · split at h
    · cases h
    · split at h
      · cases h
      · split at h
        · simp only at h
          split at h <;> cases h
        · cases h

theorem singleReverse_reason {cx : Ctx} {u : Nat → Bool} {r : Reason} (h : singleReverse cx u = .noRouting r) :
    r = .noServiceToDestination ∨ r = .noRoutingFound := by
  unfold singleReverse at h
  split at h
  · cases h
  · simp only at h
    split at h
    · cases h; exact Or.inl rfl
    · exact Or.inr (reverseJourney_reason _ _ _ _ h)

theorem singleReverse_toDestination_iff {cx : Ctx} {u : Nat → Bool} {start : Nat}
    (hst : lookupPos (revLookup cx.cs.rev cx.cs.revIdx (hourOf cx.arrT + 1)) = some start) :
    singleReverse cx u = .noRouting .noServiceToDestination ↔ (revScan cx u true start).count = 0 := by
  unfold singleReverse
  rw [hst]
  exact ite_eq_left_iff_of_ne fun h => nomatch reverseJourney_reason _ _ _ _ h

theorem calculateSingleWith_cases (ds : Dataset) (cs : ConnSet) (p : Params) (acc egr : List NTD) :
    (acc = [] ∧ egr = [] ∧ calculateSingleWith ds cs p acc egr = .noRouting .noAccessAtOriginAndDestination) ∨
    (acc = [] ∧ egr ≠ [] ∧ calculateSingleWith ds cs p acc egr = .noRouting .noAccessAtOrigin) ∨
    (acc ≠ [] ∧ egr = [] ∧ calculateSingleWith ds cs p acc egr = .noRouting .noAccessAtDestination) ∨
    (acc ≠ [] ∧ egr ≠ [] ∧ ∀ r, calculateSingleWith ds cs p acc egr = .noRouting r →
      (p.forward = true ∧ r = .noServiceFromOrigin) ∨ r = .noServiceToDestination ∨ r = .noRoutingFound) := by
  unfold calculateSingleWith
  simp only [List.isEmpty_iff]
  by_cases ha : acc = [] <;> by_cases he : egr = []
  · rw [if_pos ⟨ha, he⟩]; exact Or.inl ⟨ha, he, rfl⟩
  · rw [if_neg (fun hh => he hh.2), if_pos ha]; exact Or.inr (Or.inl ⟨ha, he, rfl⟩)
  · rw [if_neg (fun hh => ha hh.1), if_neg ha, if_pos he]; exact Or.inr (Or.inr (Or.inl ⟨ha, he, rfl⟩))
  · rw [if_neg (fun hh => ha hh.1), if_neg ha, if_neg he]
    refine Or.inr (Or.inr (Or.inr ⟨ha, he, fun r h => ?_⟩))
    split at h
    · rename_i hp
      split at h
      · cases h
      · split at h
        · cases h; exact Or.inl ⟨hp, rfl⟩
        · split at h
          · cases h; exact Or.inr (Or.inr rfl)
          · exact Or.inr (singleReverse_reason h)
    · exact Or.inr (singleReverse_reason h)

/-- `Q`: the scan of the query's direction catches nothing; `S`: that direction's NO_SERVICE reason; `T`: the other
    direction's, which does not occur -/
theorem calculateSingleWith_reason {ds : Dataset} {cs : ConnSet} {p : Params} {acc egr : List NTD} {r S T : Reason} {Q : Prop}
    (h : calculateSingleWith ds cs p acc egr = .noRouting r)
    (hST : (S = .noServiceFromOrigin ∧ T = .noServiceToDestination) ∨ (S = .noServiceToDestination ∧ T = .noServiceFromOrigin))
    (hS : acc ≠ [] → egr ≠ [] → (calculateSingleWith ds cs p acc egr = .noRouting S ↔ Q))
    (hT : calculateSingleWith ds cs p acc egr ≠ .noRouting T) :
    r = if acc = [] then (if egr = [] then .noAccessAtOriginAndDestination else .noAccessAtOrigin)
      else if egr = [] then .noAccessAtDestination else @ite _ Q (Classical.propDecidable Q) S .noRoutingFound := by
  have inj : ∀ {q : Reason}, calculateSingleWith ds cs p acc egr = .noRouting q → r = q := fun e => by cases h.symm.trans e; rfl
  rcases calculateSingleWith_cases ds cs p acc egr with ⟨ha, he, e⟩ | ⟨ha, he, e⟩ | ⟨ha, he, e⟩ | ⟨ha, he, hr⟩
  · rw [if_pos ha, if_pos he]; exact inj e
  · rw [if_pos ha, if_neg he]; exact inj e
  · rw [if_neg ha, if_pos he]; exact inj e
  · rw [if_neg ha, if_neg he]
    by_cases hq : Q
    · rw [if_pos hq]; exact inj ((hS ha he).mpr hq)
    · rw [if_neg hq]
      rcases hr r h with ⟨_, rfl⟩ | rfl | rfl
      · rcases hST with ⟨rfl, rfl⟩ | ⟨rfl, rfl⟩
        · exact absurd ((hS ha he).mp h) hq
        · exact absurd h hT
      · rcases hST with ⟨rfl, rfl⟩ | ⟨rfl, rfl⟩
        · exact absurd h hT
        · exact absurd ((hS ha he).mp h) hq
      · rfl

/-- **C07 (access part).** For every dataset, connection set and query: the route calculation
    answers NO_ACCESS_AT_ORIGIN_AND_DESTINATION / _ORIGIN / _DESTINATION exactly when the walking
    router offers no stop within the maxima at both ends / at the origin / at the destination,
    and in no other case. -/
theorem C07_access (ds : Dataset) (cs : ConnSet) (p : Params) :
    let acc := routerLookup ds.access p.maxAccess
    let egr := routerLookup ds.egress p.maxEgress
    (calculateSingleCS ds cs p = .noRouting .noAccessAtOriginAndDestination ↔ acc = [] ∧ egr = []) ∧
    (calculateSingleCS ds cs p = .noRouting .noAccessAtOrigin ↔ acc = [] ∧ egr ≠ []) ∧
    (calculateSingleCS ds cs p = .noRouting .noAccessAtDestination ↔ acc ≠ [] ∧ egr = []) := by
  intro acc egr
  unfold calculateSingleCS
  rcases calculateSingleWith_cases (ds.restrict cs) cs p acc egr with ⟨ha, he, h⟩ | ⟨ha, he, h⟩ | ⟨ha, he, h⟩ | ⟨ha, he, h⟩
  · rw [h]; simp [ha, he]
  · rw [h]; simp [ha, he]
  · rw [h]; simp [ha, he]
  · refine ⟨⟨fun h' => ?_, fun h' => absurd h'.1 ha⟩, ⟨fun h' => ?_, fun h' => absurd h'.1 ha⟩,
      ⟨fun h' => ?_, fun h' => absurd h'.2 he⟩⟩ <;>
    rcases h _ h' with ⟨_, e⟩ | e | e <;> cases e

/-- **C07**: an arrival-time route query never answers NO_SERVICE_FROM_ORIGIN. -/
theorem C07_arrival_never_from_origin (ds : Dataset) (p : Params) (hp : p.forward = false) :
    calculateSingle ds p ≠ .noRouting .noServiceFromOrigin := by
  intro h
  rcases calculateSingleWith_cases _ _ p _ _ with ⟨_, _, e⟩ | ⟨_, _, e⟩ | ⟨_, _, e⟩ | ⟨_, _, hr⟩
  · exact nomatch h.symm.trans e
  · exact nomatch h.symm.trans e
  · exact nomatch h.symm.trans e
  · rcases hr _ h with ⟨hf, _⟩ | e | e
    · exact nomatch hp.symm.trans hf
    · cases e
    · cases e

theorem calculateSingleWith_fromOrigin_iff {ds : Dataset} {cs : ConnSet} {p : Params} {acc egr : List NTD} {start : Nat}
    (ha : acc ≠ []) (he : egr ≠ []) (hp : p.forward = true)
    (hst : lookupPos (fwdLookup cs.fwd cs.fwdIdx (hourOf p.time)) = some start) :
    calculateSingleWith ds cs p acc egr = .noRouting .noServiceFromOrigin ↔
      (fwdScan (mkCtx ds p cs acc egr p.time (-1)) true start).count = 0 := by
  unfold calculateSingleWith
  simp only [List.isEmpty_iff]
  rw [if_neg (fun hh => ha hh.1), if_neg ha, if_neg he, if_pos hp, mkCtx_cs, hst]
  refine ite_eq_left_iff_of_ne fun h => ?_
  split at h
  · cases h
  · rcases singleReverse_reason h with e | e <;> cases e

theorem calculateSingleWith_toDestination_iff {ds : Dataset} {cs : ConnSet} {p : Params} {acc egr : List NTD} {start : Nat}
    (ha : acc ≠ []) (he : egr ≠ []) (hp : p.forward = false)
    (hst : lookupPos (revLookup cs.rev cs.revIdx (hourOf p.time + 1)) = some start) :
    calculateSingleWith ds cs p acc egr = .noRouting .noServiceToDestination ↔
      (revScan (mkCtx ds p cs acc egr (-1) p.time) (fun _ => true) true start).count = 0 := by
  unfold calculateSingleWith
  simp only [List.isEmpty_iff]
  rw [if_neg (fun hh => ha hh.1), if_neg ha, if_neg he, if_neg (by rw [hp]; exact Bool.false_ne_true)]
  exact singleReverse_toDestination_iff hst

theorem forwardNode_ne_noRouting (cx : Ctx) (s : FState) (n : Nat) (r : Reason) : forwardNode cx s n ≠ .noRouting r := by
  unfold forwardNode
  intro h
  split at h
  · cases h
  · split at h
    · cases h
    · split at h
      · split at h <;> cases h
      · cases h

theorem reverseNode_ne_noRouting (cx : Ctx) (s : RState) (n : Nat) (r : Reason) : reverseNode cx s n ≠ .noRouting r := by
  intro hn
  unfold reverseNode at hn
  split at hn
  · cases hn
  · split at hn
    · cases hn
    · split at hn
      · cases hn
      · split at hn
        · cases hn
        · split at hn
          · cases hn
          · simp only at hn
            split at hn <;> cases hn

/-- the tail of `calculateAllNodesCS` after the scan -/
theorem collected_noRouting {f : Nat → Outcome (Option AccNode)} (hf : ∀ n r, f n ≠ .noRouting r) {c m : Nat} {S r : Reason}
    {ns : List Nat} :
    (if c = 0 then Outcome.noRouting S else
      match collectNodes f ns [] with
      | .ok l => .ok (l, m)
      | .noRouting r => .noRouting r
      | .exception w => .exception w) = .noRouting r ↔ c = 0 ∧ r = S := by
  split
  · exact ⟨fun h => ⟨‹_›, (Outcome.noRouting.inj h).symm⟩, fun h => h.2 ▸ rfl⟩
  · refine ⟨fun h => ?_, fun h => absurd h.1 ‹_›⟩
    split at h
    · cases h
    · obtain ⟨_, _, hn⟩ := collectNodes_noRouting _ _ _ _ ‹_›
      exact absurd hn (hf _ _)
    · cases h

theorem calculateAllNodesCS_cases (ds : Dataset) (cs : ConnSet) (p : Params) :
    (p.forward = true ∧ routerLookup ds.access p.maxAccess = [] ∧
      calculateAllNodesCS ds cs p = .noRouting .noAccessAtOrigin) ∨
    (p.forward = true ∧ routerLookup ds.access p.maxAccess ≠ [] ∧
      ∀ r, calculateAllNodesCS ds cs p = .noRouting r → r = .noServiceFromOrigin) ∨
    (p.forward = false ∧ routerLookup ds.egress p.maxEgress = [] ∧
      calculateAllNodesCS ds cs p = .noRouting .noAccessAtDestination) ∨
    (p.forward = false ∧ routerLookup ds.egress p.maxEgress ≠ [] ∧
      ∀ r, calculateAllNodesCS ds cs p = .noRouting r → r = .noServiceToDestination) := by
  unfold calculateAllNodesCS
  simp only [List.isEmpty_iff]
  by_cases hp : p.forward = true
  · rw [if_pos hp]
    by_cases ha : routerLookup (ds.restrict cs).access p.maxAccess = []
    · rw [if_pos ha]; exact Or.inl ⟨hp, ha, rfl⟩
    · rw [if_neg ha]
      refine Or.inr (Or.inl ⟨hp, ha, fun r h => ?_⟩)
      split at h
      · cases h
      · exact ((collected_noRouting (forwardNode_ne_noRouting _ _)).mp h).2
  · rw [if_neg hp]
    have hp : p.forward = false := by simpa using hp
    by_cases he : routerLookup (ds.restrict cs).egress p.maxEgress = []
    · rw [if_pos he]; exact Or.inr (Or.inr (Or.inl ⟨hp, he, rfl⟩))
    · rw [if_neg he]
      refine Or.inr (Or.inr (Or.inr ⟨hp, he, fun r h => ?_⟩))
      split at h
      · cases h
      · exact ((collected_noRouting (reverseNode_ne_noRouting _ _)).mp h).2

/-- **C07 (NO_ACCESS_AT_PLACE).** The accessibility calculation answers `noAccessAtOrigin`
    (departure maps) / `noAccessAtDestination` (arrival maps) - both rendered NO_ACCESS_AT_PLACE -
    exactly when the walking router offers no stop within the maximum around the place. -/
theorem C07_no_access_at_place (ds : Dataset) (p : Params) :
    (p.forward = true → (calculateAllNodes ds p = .noRouting .noAccessAtOrigin ↔ routerLookup ds.access p.maxAccess = [])) ∧
    (p.forward = false → (calculateAllNodes ds p = .noRouting .noAccessAtDestination ↔ routerLookup ds.egress p.maxEgress = [])) := by
  unfold calculateAllNodes
  rcases calculateAllNodesCS_cases ds (ds.connSetOf (ds.scenarioOf p)) p with
    ⟨hf, ha, h⟩ | ⟨hf, ha, h⟩ | ⟨hf, he, h⟩ | ⟨hf, he, h⟩
  · exact ⟨fun _ => ⟨fun _ => ha, fun _ => h⟩, fun hp => Bool.noConfusion (hf.symm.trans hp)⟩
  · exact ⟨fun _ => ⟨fun h' => Reason.noConfusion (h _ h'), fun h' => absurd h' ha⟩, fun hp => Bool.noConfusion (hf.symm.trans hp)⟩
  · exact ⟨fun hp => Bool.noConfusion (hp.symm.trans hf), fun _ => ⟨fun _ => he, fun _ => h⟩⟩
  · exact ⟨fun hp => Bool.noConfusion (hp.symm.trans hf), fun _ => ⟨fun h' => Reason.noConfusion (h _ h'), fun h' => absurd h' he⟩⟩

theorem calculateAllNodesCS_fromOrigin_iff {ds : Dataset} {cs : ConnSet} {p : Params} {start : Nat}
    (hp : p.forward = true) (ha : routerLookup ds.access p.maxAccess ≠ [])
    (hst : lookupPos (fwdLookup cs.fwd cs.fwdIdx (hourOf p.time)) = some start) :
    calculateAllNodesCS ds cs p = .noRouting .noServiceFromOrigin ↔
      (fwdScan (mkCtx (ds.restrict cs) p cs (routerLookup ds.access p.maxAccess) [] p.time (-1)) false start).count = 0 := by
  unfold calculateAllNodesCS
  simp only [List.isEmpty_iff]
  rw [if_pos hp, if_neg (show routerLookup (ds.restrict cs).access p.maxAccess ≠ [] from ha), mkCtx_cs, hst]
  exact (collected_noRouting (forwardNode_ne_noRouting _ _)).trans (and_iff_left rfl)

theorem calculateAllNodesCS_toDestination_iff {ds : Dataset} {cs : ConnSet} {p : Params} {start : Nat}
    (hp : p.forward = false) (he : routerLookup ds.egress p.maxEgress ≠ [])
    (hst : lookupPos (revLookup cs.rev cs.revIdx (hourOf p.time + 1)) = some start) :
    calculateAllNodesCS ds cs p = .noRouting .noServiceToDestination ↔
      (revScan (mkCtx (ds.restrict cs) p cs [] (routerLookup ds.egress p.maxEgress) (-1) p.time) (fun _ => true) false start).count = 0 := by
  unfold calculateAllNodesCS
  simp only [List.isEmpty_iff]
  rw [if_neg (by rw [hp]; exact Bool.false_ne_true),
    if_neg (show routerLookup (ds.restrict cs).egress p.maxEgress ≠ [] from he), mkCtx_cs, hst]
  exact (collected_noRouting (reverseNode_ne_noRouting _ _)).trans (and_iff_left rfl)

/-- where the scans start, re-read from the source on every run: the forward scans hand
    `departureTimeSeconds / 3600` to the hour index, the reverse scans `arrivalTimeSeconds / 3600 + 1`
    (the model's `hourOf p.time` and `hourOf cx.arrT + 1`) -/
theorem C07_scan_start :
    (["forward_scans_start_at_hour_of_departure_time", "reverse_scans_start_at_hour_after_arrival_time"].all
        fun k => Gen.facts.lookup k == some true) = true := by decide

end Tr
