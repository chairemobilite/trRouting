/-
  Props/C12Full — translation invariance of the CALCULATION ITSELF (not only of what a specification
  characterises): the scan states of the shifted problem are the shifted scan states of the original
  problem, connection by connection, for every dataset whose trips have as many departure as arrival
  times (`TripsAligned`), with or without the first-waiting cap, with or without zero-duration hops.
  The other hypotheses are range conditions: clock values stay far from the two sentinels of the
  tables (`MAX_INT` = unreached in the forward tables).  Here: the forward scan, both variants at
  once, and from it departure-time accessibility (`C12_full_accessibility_departure`).
-/
import TrVerif.Props.C12Shift
import TrVerif.Props.C12
import TrVerif.Proofs.Fold
namespace Tr

def shT (k : Int) (t : Int) : Int := if t = MAX_INT then MAX_INT else t + k

def shJ (k : Int) (j : JStep) : JStep := { j with enter := j.enter.map (shiftConn k), exit := j.exit.map (shiftConn k) }

def shF (k : Int) (s : FState) : FState :=
  { tent := fun n => shT k (s.tent n), steps := fun n => shJ k (s.steps n), enterC := fun t => (s.enterC t).map (shiftConn k),
    usable := s.usable, egr := fun n => (s.egr n).map (shJ k), count := s.count, reached := s.reached,
    tentEgrArr := shT k s.tentEgrArr, stop := s.stop }

theorem upd_map {α β : Type} (g : α → β) (f : Nat → α) (a : Nat) (v : α) : (fun n => g (upd f a v n)) = upd (fun n => g (f n)) a (g v) := by
  funext n; simp only [upd]; split <;> rfl

/-- everything the forward scan reads from the context, related across the shift -/
structure CtxSh (k : Int) (cx cx' : Ctx) : Prop where
  same : CtxSame cx cx'
  maxTotal : cx'.p.maxTotal = cx.p.maxTotal
  maxFirstWait : cx'.p.maxFirstWait = cx.p.maxFirstWait
  depT : cx'.depT = cx.depT + k
  transferable : ∀ t, cx'.ds.transferable t = cx.ds.transferable t
  nStops : cx'.ds.nStops = cx.ds.nStops

def TentLe (B : Int) (s : FState) : Prop := ∀ n, s.tent n = MAX_INT ∨ s.tent n ≤ B

theorem shiftConn_trip (k : Int) (c : Conn) : (shiftConn k c).trip = c.trip := rfl
theorem shiftConn_seq (k : Int) (c : Conn) : (shiftConn k c).seq = c.seq := rfl
theorem shiftConn_depStop (k : Int) (c : Conn) : (shiftConn k c).depStop = c.depStop := rfl
theorem shiftConn_arrStop (k : Int) (c : Conn) : (shiftConn k c).arrStop = c.arrStop := rfl
theorem shiftConn_canBoard (k : Int) (c : Conn) : (shiftConn k c).canBoard = c.canBoard := rfl
theorem shiftConn_canUnboard (k : Int) (c : Conn) : (shiftConn k c).canUnboard = c.canUnboard := rfl
theorem shiftConn_dep (k : Int) (c : Conn) : (shiftConn k c).dep = c.dep + k := rfl
theorem shiftConn_arr (k : Int) (c : Conn) : (shiftConn k c).arr = c.arr + k := rfl

/-! comparing a table value with a real clock value `a ≤ B` commutes with the shift: the sentinel stays above both -/
section
variable {k B t a : Int} (hB : B + k < MAX_INT) (hB0 : B < MAX_INT) (ha : a ≤ B)
include hB hB0 ha
theorem shT_lt_iff : shT k t < a + k ↔ t < a := by unfold shT; split <;> omega
theorem lt_shT_iff : a + k < shT k t ↔ a < t := by unfold shT; split <;> omega
theorem shT_le_iff : shT k t ≤ a + k ↔ t ≤ a := by unfold shT; split <;> omega
end

theorem shT_fin {k t B : Int} (h : t ≤ B) (hB0 : B < MAX_INT) : shT k t = t + k := by
  unfold shT; rw [if_neg (by omega)]

theorem egrAll_shift (k : Int) (o : Option JStep) (a : Int) :
    ((o.map (shJ k)).all fun e => e.exit.any fun x => decide (x.arr > a + k)) = (o.all fun e => e.exit.any fun x => decide (x.arr > a)) := by
  cases o with
  | none => rfl
  | some e =>
    simp only [Option.map_some, Option.all_some, shJ]
    cases e.exit with
    | none => rfl
    | some x =>
      simp only [Option.map_some, Option.any_some, shiftConn]
      exact decide_eq_decide.2 (by omega)

theorem shF_tent_steps (k : Int) (s : FState) (a : Nat) (v : Int) (js : JStep) :
    shF k { s with tent := upd s.tent a v, steps := upd s.steps a js } =
      { shF k s with tent := upd (shF k s).tent a (shT k v), steps := upd (shF k s).steps a (shJ k js) } := by
  simp only [shF, upd_map (shT k), upd_map (shJ k)]

theorem shF_egr (k : Int) (s : FState) (a : Nat) (js : JStep) :
    shF k { s with egr := upd s.egr a (some js) } = { shF k s with egr := upd (shF k s).egr a (some (shJ k js)) } := by
  simp only [shF, upd_map (Option.map (shJ k)), Option.map_some]

theorem shF_egr_app (k : Int) (s : FState) (n : Nat) : (shF k s).egr n = (s.egr n).map (shJ k) := rfl
theorem shF_tent (k : Int) (s : FState) (n : Nat) : (shF k s).tent n = shT k (s.tent n) := rfl

theorem tentLe_upd {B : Int} {s : FState} (hs : TentLe B s) (a : Nat) (v : Int) (hv : v ≤ B) (st : Nat → JStep) :
    TentLe B ({ s with tent := upd s.tent a v, steps := st } : FState) := by
  intro n; simp only [upd]; split
  · exact Or.inr hv
  · exact hs n

theorem fwdFoot_shift_tentLe {k B : Int} {cx cx' : Ctx} (h : CtxSh k cx cx') (hB : B + k < MAX_INT) (hB0 : B < MAX_INT)
    (c : Conn) (s : FState) (f : NTD) (hs : TentLe B s) (hc : c.arr ≤ B) (hcf : f.time + c.arr ≤ B) :
    fwdFoot cx' (shiftConn k c) (shF k s) f = shF k (fwdFoot cx c s f) ∧ TentLe B (fwdFoot cx c s f) := by
  have E1 : (shF k s).tent f.stop < (shiftConn k c).arr ↔ s.tent f.stop < c.arr := shT_lt_iff hB hB0 hc
  have hv : f.time + (shiftConn k c).arr = shT k (f.time + c.arr) := by rw [shT_fin hcf hB0, shiftConn_arr, Int.add_assoc]
  have E2 : f.time + (shiftConn k c).arr < (shF k s).tent f.stop ↔ f.time + c.arr < s.tent f.stop := by
    rw [hv, shT_fin hcf hB0]; exact lt_shT_iff hB hB0 hcf
  have js' : ({ enter := (shF k s).enterC c.trip, exit := some (shiftConn k c), walk := f.time, dist := f.dist } : JStep) =
      shJ k { enter := s.enterC c.trip, exit := some c, walk := f.time, dist := f.dist } := rfl
  have hup := tentLe_upd hs f.stop _ hcf s.steps
  unfold fwdFoot
  simp only [shiftConn_arrStop, shiftConn_trip, ← h.same.mt, E1, E2]
  by_cases g1 : f.stop ≠ c.arrStop ∧ s.tent f.stop < c.arr
  · simp only [if_pos g1]; exact ⟨trivial, hs⟩
  · simp only [if_neg g1]
    by_cases g2 : f.time ≤ cx.p.maxTransfer
    · simp only [if_pos g2]
      by_cases g3 : f.time + c.arr < s.tent f.stop
      · simp only [if_pos g3, js', hv]
        rw [← shF_tent_steps, shF_egr_app, shiftConn_arr, egrAll_shift]
        split
        · exact ⟨by simp only [shF, upd_map (shT k), upd_map (shJ k), upd_map (Option.map (shJ k)), Option.map_some], hup⟩
        · exact ⟨rfl, hup⟩
      · simp only [if_neg g3, js']
        rw [shF_egr_app, shiftConn_arr, egrAll_shift]
        split
        · exact ⟨(shF_egr ..).symm, hs⟩
        · exact ⟨rfl, hs⟩
    · simp only [if_neg g2]; exact ⟨trivial, hs⟩

theorem fwdFoot_shift {k B : Int} {cx cx' : Ctx} (h : CtxSh k cx cx') (hB : B + k < MAX_INT) (hB0 : B < MAX_INT)
    (c : Conn) (s : FState) (f : NTD) (hs : TentLe B s) (hc : c.arr ≤ B) (hcf : f.time + c.arr ≤ B) :
    fwdFoot cx' (shiftConn k c) (shF k s) f = shF k (fwdFoot cx c s f) :=
  (fwdFoot_shift_tentLe h hB hB0 c s f hs hc hcf).1

theorem fwdFootFold_shift {k B W : Int} {cx cx' : Ctx} (h : CtxSh k cx cx') (hB : B + k < MAX_INT) (hB0 : B < MAX_INT)
    (c : Conn) (hc : c.arr ≤ B) (hcw : c.arr + W ≤ B) (l : List NTD) (s : FState) (hl : ∀ f ∈ l, f.time ≤ W) (hs : TentLe B s) :
    l.foldl (fwdFoot cx' (shiftConn k c)) (shF k s) = shF k (l.foldl (fwdFoot cx c) s) ∧ TentLe B (l.foldl (fwdFoot cx c) s) := by
  have := foldl_sim (shF k) id (TentLe B) (fun f : NTD => f.time ≤ W)
    (fun s f hs hf => fwdFoot_shift_tentLe h hB hB0 c s f hs hc (by omega)) l s hl hs
  rwa [List.map_id] at this

theorem shF_enterC_isSome (k : Int) (s : FState) (t : Nat) : ((shF k s).enterC t).isSome = (s.enterC t).isSome := Option.isSome_map
theorem shF_enterC_isNone (k : Int) (s : FState) (t : Nat) : ((shF k s).enterC t).isNone = (s.enterC t).isNone := Option.isNone_map
theorem shF_steps_enter (k : Int) (s : FState) (n : Nat) : ((shF k s).steps n).enter.isNone = (s.steps n).enter.isNone :=
  Option.isNone_map

theorem fwdBoardS_shift (k : Int) (s : FState) (c : Conn) : fwdBoardS (shF k s) (shiftConn k c) = shF k (fwdBoardS s c) := by
  unfold fwdBoardS
  simp only [shiftConn_canBoard, shiftConn_trip, shF_enterC_isNone, apply_ite (shF k)]
  congr 1
  simp only [shF, upd_map (Option.map (shiftConn k)), Option.map_some]

theorem fwdBoardS_keeps (s : FState) (c : Conn) :
    (fwdBoardS s c).tent = s.tent ∧ (fwdBoardS s c).tentEgrArr = s.tentEgrArr ∧ (fwdBoardS s c).egr = s.egr := by
  unfold fwdBoardS; split <;> exact ⟨rfl, rfl, rfl⟩

def EgrArrOk (B : Int) (s : FState) : Prop := s.tentEgrArr = MAX_INT ∨ s.tentEgrArr ≤ B

theorem fwdAlightS_shift {k B W : Int} {cx cx' : Ctx} (h : CtxSh k cx cx') (hB : B + k < MAX_INT) (hB0 : B < MAX_INT)
    (hfoot : ∀ z, ∀ f ∈ cx.ds.footOf z, f.time ≤ W) (single : Bool) (c : Conn) (s : FState) (hs : TentLe B s) (hc : c.arr ≤ B) (hcw : c.arr + W ≤ B) :
    fwdAlightS cx' single (shF k s) (shiftConn k c) = shF k (fwdAlightS cx single s c) ∧ TentLe B (fwdAlightS cx single s c) := by
  have hs1 : ({ shF k s with reached := true, tentEgrArr := (shiftConn k c).arr } : FState) = shF k { s with reached := true, tentEgrArr := c.arr } := by
    simp only [shF]; congr 1; rw [shT_fin hc hB0]; rfl
  have hr : (shF k s).reached = s.reached := rfl
  unfold fwdAlightS
  simp only [shF_enterC_isSome, shiftConn_canUnboard, shiftConn_arrStop, shiftConn_trip, hr, nodesEgress_same h.same, ← h.same.foot]
  split
  · split
    · rw [hs1]; exact fwdFootFold_shift h hB hB0 c hc hcw _ _ (hfoot c.arrStop) hs
    · exact fwdFootFold_shift h hB hB0 c hc hcw _ s (hfoot c.arrStop) hs
  · exact ⟨rfl, hs⟩

theorem fwdGuardP_shift {k B : Int} {cx cx' : Ctx} (h : CtxSh k cx cx') (hB : B + k < MAX_INT) (hB0 : B < MAX_INT) (hmw : 0 ≤ cx.p.minWait)
    (c : Conn) (s : FState) (hs : TentLe B s) (hcd : c.dep ≤ B) : fwdGuardP cx' (shF k s) (shiftConn k c) ↔ fwdGuardP cx s c := by
  have hw := effWait_nonneg c cx.p.minWait hmw
  have E4 : shT k (s.tent c.depStop) ≤ c.dep + k - c.effWait cx.p.minWait ↔ s.tent c.depStop ≤ c.dep - c.effWait cx.p.minWait := by
    rw [show c.dep + k - c.effWait cx.p.minWait = c.dep - c.effWait cx.p.minWait + k by omega]
    exact shT_le_iff hB hB0 (by omega)
  -- the first-waiting cap is only read when it is positive, and then an unreached stop fails it on both sides
  have E5 : cx.p.maxFirstWait > 0 → (c.dep + k - shT k (s.tent c.depStop) ≤ cx.p.maxFirstWait ↔ c.dep - s.tent c.depStop ≤ cx.p.maxFirstWait) := by
    intro hfo
    rcases hs c.depStop with e | e
    · rw [e]; simp only [shT, if_true]; omega
    · rw [shT_fin e hB0]; omega
  unfold fwdGuardP
  simp only [shiftConn_trip, shiftConn_depStop, shiftConn_dep, effWait_shift, shF_enterC_isSome, shF_tent, shF_steps_enter, ← h.same.mw,
    h.maxFirstWait, nodesAccess_same h.same, E4]
  by_cases hfo : cx.p.maxFirstWait > 0
  · rw [E5 hfo]
  · simp only [hfo, decide_false, Bool.false_and, Bool.false_eq_true, not_false_eq_true, true_or]

theorem fwdBreakP_shift {k B : Int} {cx cx' : Ctx} (h : CtxSh k cx cx') (hB : B + k < MAX_INT) (hB0 : B < MAX_INT)
    (single : Bool) (c : Conn) (s : FState) (ha : single = true → EgrArrOk B s) :
    fwdBreakP cx' single (shF k s) (shiftConn k c) ↔ fwdBreakP cx single s c := by
  have hr : (shF k s).reached = s.reached := rfl
  have ht : (shF k s).tentEgrArr = shT k s.tentEgrArr := rfl
  have e3 : c.dep + k - (cx.depT + k) > cx.p.maxTotal ↔ c.dep - cx.depT > cx.p.maxTotal := by omega
  unfold fwdBreakP
  simp only [shiftConn_dep, h.depT, h.maxTotal, maxEgress_same h.same, hr, ht, e3]
  cases single with
  | false => simp only [Bool.false_eq_true, false_and]
  | true =>
    rcases ha rfl with e | e
    · rw [e]; simp only [shT, if_true, Int.lt_irrefl, false_and, and_false]
    · rw [shT_fin e hB0, show s.tentEgrArr + k < MAX_INT ↔ s.tentEgrArr < MAX_INT by omega,
        show c.dep + k > s.tentEgrArr + k + cx.maxEgress ↔ c.dep > s.tentEgrArr + cx.maxEgress by omega]

theorem fwdStep_shift_tentLe {k B W : Int} {cx cx' : Ctx} (h : CtxSh k cx cx') (hB : B + k < MAX_INT) (hB0 : B < MAX_INT)
    (hfoot : ∀ z, ∀ f ∈ cx.ds.footOf z, f.time ≤ W) (hmw : 0 ≤ cx.p.minWait) (single : Bool)
    (c : Conn) (s : FState) (hs : TentLe B s) (ha : single = true → EgrArrOk B s) (hc : c.arr ≤ B) (hcw : c.arr + W ≤ B) (hcd : c.dep ≤ B) :
    fwdStep cx' single (shF k s) (shiftConn k c) = shF k (fwdStep cx single s c) ∧ TentLe B (fwdStep cx single s c) := by
  have E1 : (shiftConn k c).dep ≥ cx'.depT + cx'.minAccess ↔ c.dep ≥ cx.depT + cx.minAccess := by
    rw [h.depT, minAccess_same h.same, shiftConn_dep]; omega
  have hstop : (shF k s).stop = s.stop := rfl
  obtain ⟨ha1, ha2⟩ := fwdAlightS_shift h hB hB0 hfoot single c (fwdBoardS s c) (by intro n; rw [(fwdBoardS_keeps s c).1]; exact hs n) hc hcw
  refine ⟨?_, fwdStep_ind (TentLe B) cx single s c hs hs ha2⟩
  rw [fwdStep_eq, fwdStep_eq]
  simp only [hstop, E1, shiftConn_trip, ← h.same.dis, fwdGuardP_shift h hB hB0 hmw c s hs hcd, fwdBreakP_shift h hB hB0 single c s ha,
    fwdBoardS_shift, ha1, apply_ite (shF k)]
  rfl

theorem fwdStep_shift {k B W : Int} {cx cx' : Ctx} (h : CtxSh k cx cx') (hB : B + k < MAX_INT) (hB0 : B < MAX_INT)
    (hfoot : ∀ z, ∀ f ∈ cx.ds.footOf z, f.time ≤ W) (hmw : 0 ≤ cx.p.minWait)
    (c : Conn) (s : FState) (hs : TentLe B s) (hc : c.arr ≤ B) (hcw : c.arr + W ≤ B) (hcd : c.dep ≤ B) (hcmw : 0 ≤ c.minWait ∨ c.minWait = -1) :
    fwdStep cx' false (shF k s) (shiftConn k c) = shF k (fwdStep cx false s c) ∧ TentLe B (fwdStep cx false s c) :=
  fwdStep_shift_tentLe h hB hB0 hfoot hmw false c s hs nofun hc hcw hcd

def EgrFrom (l : List Conn) (s : FState) : Prop := ∀ n js, s.egr n = some js → ∃ x ∈ l, js.exit = some x

/-- what the scan keeps, so that each comparison with a table entry reads a real clock value ≤ `B` or the sentinel -/
structure FwdInv1 (B : Int) (l : List Conn) (s : FState) : Prop where
  tent : TentLe B s
  arr : EgrArrOk B s
  egr : EgrFrom l s

theorem fwdFoot_keeps (cx : Ctx) (c : Conn) (s : FState) (f : NTD) :
    (fwdFoot cx c s f).reached = s.reached ∧ (fwdFoot cx c s f).tentEgrArr = s.tentEgrArr := by
  unfold fwdFoot
  simp only [apply_ite FState.reached, apply_ite FState.tentEgrArr, ite_self, and_self]

theorem fwdFoot_egr_upd (cx : Ctx) (c : Conn) (s : FState) (f : NTD) :
    (fwdFoot cx c s f).egr = s.egr ∨ ∃ js : JStep, js.exit = some c ∧ (fwdFoot cx c s f).egr = upd s.egr f.stop (some js) := by
  unfold fwdFoot
  simp only [apply_ite FState.egr, ite_self]
  split
  · exact Or.inl rfl
  · split
    · split
      · exact Or.inr ⟨_, rfl, rfl⟩
      · exact Or.inl rfl
    · exact Or.inl rfl

theorem fwdFoot_egrFrom {l : List Conn} (cx : Ctx) (c : Conn) (hc : c ∈ l) (s : FState) (f : NTD) (h : EgrFrom l s) :
    EgrFrom l (fwdFoot cx c s f) := by
  intro n js hjs
  rcases fwdFoot_egr_upd cx c s f with e | ⟨js', hx, e⟩ <;> rw [e] at hjs
  · exact h n js hjs
  · rw [upd_apply] at hjs
    split at hjs
    · cases hjs; exact ⟨c, hc, hx⟩
    · exact h n js hjs

theorem fwdFootFold_props {l : List Conn} (cx : Ctx) (c : Conn) (hc : c ∈ l) (fs : List NTD) (s : FState) (h : EgrFrom l s) :
    (fs.foldl (fwdFoot cx c) s).reached = s.reached ∧ (fs.foldl (fwdFoot cx c) s).tentEgrArr = s.tentEgrArr ∧
    EgrFrom l (fs.foldl (fwdFoot cx c) s) :=
  foldl_inv (fun t => t.reached = s.reached ∧ t.tentEgrArr = s.tentEgrArr ∧ EgrFrom l t)
    (fun t f _ ⟨a, b, e⟩ => ⟨(fwdFoot_keeps cx c t f).1.trans a, (fwdFoot_keeps cx c t f).2.trans b, fwdFoot_egrFrom cx c hc t f e⟩)
    ⟨rfl, rfl, h⟩

theorem fwdAlightS_inv1 {B : Int} {l : List Conn} (cx : Ctx) (c : Conn) (hcl : c ∈ l) (s : FState) (hc : c.arr ≤ B) (single : Bool)
    (ha : EgrArrOk B s) (he : EgrFrom l s) : EgrArrOk B (fwdAlightS cx single s c) ∧ EgrFrom l (fwdAlightS cx single s c) := by
  unfold fwdAlightS EgrArrOk
  split
  · split
    · obtain ⟨_, p2, p3⟩ := fwdFootFold_props cx c hcl (cx.ds.footOf c.arrStop) { s with reached := true, tentEgrArr := c.arr } he
      exact ⟨by rw [p2]; exact Or.inr hc, p3⟩
    · obtain ⟨_, p2, p3⟩ := fwdFootFold_props cx c hcl (cx.ds.footOf c.arrStop) s he
      exact ⟨by rw [p2]; exact ha, p3⟩
  · exact ⟨ha, he⟩

theorem fwdStep_shift_inv1 {k B W : Int} {cx cx' : Ctx} {l : List Conn} (h : CtxSh k cx cx') (hB : B + k < MAX_INT) (hB0 : B < MAX_INT)
    (hfoot : ∀ z, ∀ f ∈ cx.ds.footOf z, f.time ≤ W) (hmw : 0 ≤ cx.p.minWait) (single : Bool)
    (c : Conn) (hcl : c ∈ l) (s : FState) (hs : FwdInv1 B l s) (hc : c.arr ≤ B) (hcw : c.arr + W ≤ B) (hcd : c.dep ≤ B) :
    fwdStep cx' single (shF k s) (shiftConn k c) = shF k (fwdStep cx single s c) ∧ FwdInv1 B l (fwdStep cx single s c) := by
  obtain ⟨e, ht⟩ := fwdStep_shift_tentLe h hB hB0 hfoot hmw single c s hs.tent (fun _ => hs.arr) hc hcw hcd
  obtain ⟨_, k2, k3⟩ := fwdBoardS_keeps s c
  obtain ⟨a2, a3⟩ := fwdAlightS_inv1 cx c hcl (fwdBoardS s c) hc single (by unfold EgrArrOk; rw [k2]; exact hs.arr)
    (by intro n js hjs; rw [k3] at hjs; exact hs.egr n js hjs)
  exact ⟨e, ht, fwdStep_ind (EgrArrOk B) cx single s c hs.arr hs.arr a2,
    fwdStep_ind (EgrFrom l) cx single s c hs.egr hs.egr a3⟩

/-- `W`: room for the longest footpath -/
def ConnsLe (B W : Int) (l : List Conn) : Prop := ∀ c ∈ l, c.arr ≤ B ∧ c.arr + W ≤ B ∧ c.dep ≤ B ∧ (0 ≤ c.minWait ∨ c.minWait = -1)

theorem init_steps_shift (k : Int) (l : List NTD) (f : Nat → JStep) :
    (fun n => shJ k ((l.foldl (fun f e => upd f e.stop ({ walk := e.time, dist := e.dist } : JStep)) f) n)) =
      l.foldl (fun f e => upd f e.stop ({ walk := e.time, dist := e.dist } : JStep)) (fun n => shJ k (f n)) :=
  foldl_upd_map (shJ k) NTD.stop _ _ l f (fun _ _ => rfl)

theorem FState_init_shift {k B : Int} {cx cx' : Ctx} (h : CtxSh k cx cx') (hB0 : B < MAX_INT) (ha : ∀ e ∈ cx.accessFoot, cx.depT + e.time ≤ B) :
    FState.init cx' = shF k (FState.init cx) ∧ TentLe B (FState.init cx) := by
  refine ⟨?_, foldl_upd_all (fun t => t = MAX_INT ∨ t ≤ B) NTD.stop (fun e => cx.depT + e.time) (fun e he => Or.inr (ha e he)) (fun _ => Or.inl rfl)⟩
  unfold FState.init shF
  rw [← h.same.acc, h.depT]
  simp only
  rw [foldl_upd_map (shT k) NTD.stop (fun e => cx.depT + e.time) (fun e => cx.depT + k + e.time) _ _ (fun e he => by rw [shT_fin (ha e he) hB0]; omega), init_steps_shift k]
  simp only [shT, if_true, shJ, Option.map_none]

/-- whatever is computed from the two connections of a leg (a ride has both, a walk neither) -/
theorem legMatch_shift {α β : Type} (k : Int) (j : JStep) (F : Conn → Conn → α) (G : Conn → Conn → β) (d : α) (d' : β) (φ : α → β)
    (hd : d' = φ d) (hFG : ∀ e x, G (shiftConn k e) (shiftConn k x) = φ (F e x)) :
    (match (shJ k j).enter, (shJ k j).exit with | some e, some x => G e x | _, _ => d') =
      φ (match j.enter, j.exit with | some e, some x => F e x | _, _ => d) := by
  simp only [shJ]
  cases j.enter with
  | none => exact hd
  | some e =>
    cases j.exit with
    | none => exact hd
    | some x => exact hFG e x

theorem fwdChain_shift (k : Int) (ds ds' : Dataset) (htr : ∀ t, ds'.transferable t = ds.transferable t) (steps : Nat → JStep) :
    ∀ (fuel : Nat) (cur : JStep) (n : Int), fwdChain ds' (fun z => shJ k (steps z)) fuel (shJ k cur) n = fwdChain ds steps fuel cur n := by
  intro fuel
  induction fuel with
  | zero => intro cur n; simp only [fwdChain, JStep.hasConns, shJ, Option.isSome_map]; rfl
  | succ fuel ih =>
    intro cur n
    simp only [fwdChain]
    exact legMatch_shift k cur _ _ (some n) (some n) id rfl fun e x => by rw [shiftConn_depStop, shiftConn_trip, htr]; exact ih _ _

def shNode (k : Int) (a : AccNode) : AccNode := { a with nodeTime := a.nodeTime + k }

def shNodeOut (k : Int) : Outcome (Option AccNode) → Outcome (Option AccNode)
  | .ok o => .ok (o.map (shNode k))
  | .noRouting r => .noRouting r
  | .exception w => .exception w

theorem forwardNode_shift {k : Int} {cx cx' : Ctx} (h : CtxSh k cx cx') (s : FState) (node : Nat) :
    forwardNode cx' (shF k s) node = shNodeOut k (forwardNode cx s node) := by
  unfold forwardNode
  rw [shF_egr_app]
  cases hs : s.egr node with
  | none => rfl
  | some first =>
    simp only [Option.map_some]
    have hc := fwdChain_shift k cx.ds cx'.ds h.transferable s.steps (cx.ds.nStops + 2) first (-1)
    rw [h.nStops]
    show (match fwdChain cx'.ds (fun z => shJ k (s.steps z)) (cx.ds.nStops + 2) (shJ k first) (-1) with
      | none => _ | some nt => _) = _
    rw [hc]
    cases fwdChain cx.ds s.steps (cx.ds.nStops + 2) first (-1) with
    | none => rfl
    | some nt =>
      refine legMatch_shift k first _ _ (.ok none) (.ok none) (shNodeOut k) rfl fun e x => ?_
      simp only [shiftConn_arr, h.depT, h.maxTotal]
      rw [show x.arr + k - (cx.depT + k) = x.arr - cx.depT by omega]
      split <;> rfl

def shAccOut (k : Int) : Outcome (List AccNode × Nat) → Outcome (List AccNode × Nat)
  | .ok (l, n) => .ok (l.map (shNode k), n)
  | .noRouting r => .noRouting r
  | .exception w => .exception w

theorem collectNodes_shift (k : Int) (f f' : Nat → Outcome (Option AccNode)) (hf : ∀ n, f' n = shNodeOut k (f n)) :
    ∀ (l : List Nat) (acc : List AccNode),
      collectNodes f' l (acc.map (shNode k)) = (match collectNodes f l acc with
        | .ok r => .ok (r.map (shNode k)) | .noRouting r => .noRouting r | .exception w => .exception w) := by
  intro l
  induction l with
  | nil => intro acc; rfl
  | cons n ns ih =>
    intro acc
    simp only [collectNodes, hf]
    cases f n with
    | ok o =>
      cases o with
      | none => simp only [shNodeOut, Option.map_none]; exact ih acc
      | some a =>
        simp only [shNodeOut, Option.map_some]
        have := ih (acc ++ [a])
        simp only [List.map_append, List.map_cons, List.map_nil] at this
        exact this
    | noRouting r => rfl
    | exception w => rfl

theorem fwdLt_shift (k : Int) (a b : Conn) : fwdLt (shiftConn k a) (shiftConn k b) = fwdLt a b := by
  apply Bool.eq_iff_iff.2
  simp only [fwdLt, Bool.or_eq_true, Bool.and_eq_true, decide_eq_true_eq]
  simp only [shiftConn]
  constructor <;> intro h <;> omega

theorem fwdAll_shift (k : Int) (ds : Dataset) (hal : TripsAligned ds) : (shiftDs k ds).fwdAll = ds.fwdAll.map (shiftConn k) := by
  simp only [Dataset.fwdAll]; rw [conns_shift k ds hal, isort_map fwdLt fwdLt (shiftConn k) (fwdLt_shift k)]

theorem fwd_list_shift (k : Int) (ds : Dataset) (hal : TripsAligned ds) (sc : Scenario) :
    ((shiftDs k ds).connSetOf sc).fwd = ((ds.connSetOf sc).fwd).map (shiftConn k) := by
  simp only [Dataset.connSetOf, mkConnSet]
  rw [fwdAll_shift k ds hal, List.filter_map]
  congr 1
  apply List.filter_congr
  intro c _
  simp only [Function.comp]
  rw [tripEnabled_shift]; rfl

theorem transferable_shift (k : Int) (ds : Dataset) (t : Nat) : (shiftDs k ds).transferable t = ds.transferable t := by
  unfold Dataset.transferable Dataset.modeOfTrip
  rw [lineOfTrip_shift]; rfl

def shAccOutcome (k : Int) : Outcome (List AccNode × Nat) → Outcome (List AccNode × Nat)
  | .ok (l, n) => .ok (l.map (shNode k), n)
  | .noRouting r => .noRouting r
  | .exception w => .exception w

theorem scenarioOf_shift (k : Int) (ds : Dataset) (p : Params) : (shiftDs k ds).scenarioOf (shiftP k p) = ds.scenarioOf p := rfl

theorem lookupAccess_shift (k : Int) (ds : Dataset) (p : Params) :
    routerLookup ((shiftDs k ds).restrict ((shiftDs k ds).connSetOf (ds.scenarioOf p))).access (shiftP k p).maxAccess =
      routerLookup (ds.restrict (ds.connSetOf (ds.scenarioOf p))).access p.maxAccess := rfl

theorem lookupEgress_shift (k : Int) (ds : Dataset) (p : Params) :
    routerLookup ((shiftDs k ds).restrict ((shiftDs k ds).connSetOf (ds.scenarioOf p))).egress (shiftP k p).maxEgress =
      routerLookup (ds.restrict (ds.connSetOf (ds.scenarioOf p))).egress p.maxEgress := rfl

/-- `dT'` is `dT + k` in the form the caller meets it, and the shifted context is written with the scenario of `p`, as it
    stands in a goal once `scenarioOf_shift` has been rewritten -/
theorem ctxSh_shift (k : Int) (ds : Dataset) (p : Params) (A E : List NTD) (dT dT' aT aT' : Int) (hd : dT' = dT + k) :
    CtxSh k (qCtx ds p A E dT aT)
      (mkCtx ((shiftDs k ds).restrict ((shiftDs k ds).connSetOf (ds.scenarioOf p))) (shiftP k p) ((shiftDs k ds).connSetOf (ds.scenarioOf p))
        A E dT' aT') := by
  refine ⟨ctxSame_shift k ds p A E dT aT dT' aT', rfl, rfl, hd, ?_, ?_⟩
  · intro t; show ((shiftDs k ds).restrict _).transferable t = _; rw [restrict_shift, transferable_shift]; rfl
  · show ((shiftDs k ds).restrict _).nStops = _; rw [restrict_shift]; rfl

theorem fwdScan_shift {k B W : Int} {cx cx' : Ctx} (h : CtxSh k cx cx') (hfwd : cx'.cs.fwd = cx.cs.fwd.map (shiftConn k))
    (hB : B + k < MAX_INT) (hB0 : B < MAX_INT) (hfoot : ∀ z, ∀ f ∈ cx.ds.footOf z, f.time ≤ W) (hmw : 0 ≤ cx.p.minWait)
    (hl : ConnsLe B W cx.cs.fwd) (ha : ∀ e ∈ cx.accessFoot, cx.depT + e.time ≤ B) (single : Bool) :
    fwdScan cx' single 0 = shF k (fwdScan cx single 0) ∧ FwdInv1 B cx.cs.fwd (fwdScan cx single 0) := by
  obtain ⟨hi1, hi2⟩ := FState_init_shift h hB0 ha
  unfold fwdScan
  rw [List.drop_zero, List.drop_zero, hfwd, hi1]
  exact foldl_sim (shF k) (shiftConn k) (FwdInv1 B cx.cs.fwd) (fun c => c ∈ cx.cs.fwd ∧ c.arr ≤ B ∧ c.arr + W ≤ B ∧ c.dep ≤ B)
    (fun s c hs hc => fwdStep_shift_inv1 h hB hB0 hfoot hmw single c hc.1 s hs hc.2.1 hc.2.2.1 hc.2.2.2) _ _
    (fun c hc => ⟨hc, (hl c hc).1, (hl c hc).2.1, (hl c hc).2.2.1⟩) ⟨hi2, Or.inl rfl, by intro n js hjs; simp [FState.init] at hjs⟩

/-- the end of both accessibility calculations -/
theorem accOutcome_shift (k : Int) (b : Bool) (r1 r2 : Reason) (c : Nat) {f f' : Nat → Outcome (Option AccNode)}
    (hf : ∀ n, f' n = shNodeOut k (f n)) {n n' : Nat} (hn : n' = n) :
    (if b = true then .noRouting r1 else if c = 0 then .noRouting r2 else
      match collectNodes f' (List.range n') [] with
      | .ok l => .ok (l, n') | .noRouting r => .noRouting r | .exception w => .exception w) =
    shAccOutcome k (if b = true then .noRouting r1 else if c = 0 then .noRouting r2 else
      match collectNodes f (List.range n) [] with
      | .ok l => .ok (l, n) | .noRouting r => .noRouting r | .exception w => .exception w) := by
  subst hn
  split
  · rfl
  · split
    · rfl
    · rw [show collectNodes f' (List.range n') [] = _ from collectNodes_shift k f f' hf (List.range n') []]
      cases collectNodes f (List.range n') [] <;> rfl

/-- range conditions of `C12_full_accessibility_departure`: `B` a bound below `MAX_INT` on both sides of the shift, `W` the
    longest footpath -/
structure FwdRange (ds : Dataset) (p : Params) (k B W : Int) : Prop where
  hB : B + k < MAX_INT
  hB0 : B < MAX_INT
  foot : ∀ z, ∀ f ∈ ds.footOf z, f.time ≤ W
  mw : 0 ≤ p.minWait
  conns : ConnsLe B W (ds.connSetOf (ds.scenarioOf p)).fwd
  access : ∀ e ∈ ds.access, p.time + e.time ≤ B

/-- **C12 in full for departure-time accessibility**: moving every scheduled time and the requested time by `k` moves every
    reported node time by `k` and changes nothing else (status, reason, stops, travel times, numbers of transfers), for every
    dataset with aligned trips, every query and every offset, provided the clock values stay clear of the `MAX_INT` sentinel.
    No optimality domain is involved. -/
theorem C12_full_accessibility_departure (ds : Dataset) (p : Params) (k B W : Int) (hal : TripsAligned ds) (hf : p.forward = true)
    (R : FwdRange ds p k B W) :
    calculateAllNodes0 (shiftDs k ds) (shiftP k p) = shAccOutcome k (calculateAllNodes0 ds p) := by
  have hfw : (shiftP k p).forward = true := hf
  have hsh := ctxSh_shift k ds p (routerLookup (ds.restrict (ds.connSetOf (ds.scenarioOf p))).access p.maxAccess) []
    p.time (shiftP k p).time (-1) (-1) rfl
  unfold calculateAllNodes0
  simp only [hfw, hf, if_true]
  rw [scenarioOf_shift, lookupAccess_shift,
    (fwdScan_shift hsh (fwd_list_shift k ds hal _) R.hB R.hB0 R.foot R.mw R.conns (fun e he => R.access e (List.mem_filter.1 he).1) false).1]
  exact accOutcome_shift k _ _ _ _ (fun n => forwardNode_shift hsh _ n) hsh.nStops

/-- `C12_full_accessibility_departure` for the calculation WITH the hour index (what the server runs), for requests inside
    [0, 32 h) on both sides of the shift -/
theorem C12_full_accessibility_departure_indexed (ds : Dataset) (p : Params) (k B W : Int) (hal : TripsAligned ds) (hf : p.forward = true)
    (R : FwdRange ds p k B W) (h0 : 0 ≤ p.time) (ht : p.time < (HOUR_END : Int) * 3600) (h0' : 0 ≤ p.time + k)
    (ht' : p.time + k < (HOUR_END : Int) * 3600) (hacc : ∀ a ∈ ds.access, 0 ≤ a.time) :
    calculateAllNodes (shiftDs k ds) (shiftP k p) = shAccOutcome k (calculateAllNodes ds p) := by
  rw [C12_index_transparent_accessibility ds p h0 ht hacc,
    C12_index_transparent_accessibility (shiftDs k ds) (shiftP k p) h0' ht' hacc]
  exact C12_full_accessibility_departure ds p k B W hal hf R

theorem footOf_time_le (ds : Dataset) (W : Int) (h : ∀ x ∈ ds.foot, x.time ≤ W) (z : Nat) (f : NTD) (hf : f ∈ ds.footOf z) : f.time ≤ W := by
  simp only [Dataset.footOf, List.mem_filterMap] at hf
  obtain ⟨x, hx, e⟩ := hf
  split at e
  · cases e; exact h x hx
  · cases e

def nvDs' : Dataset :=
  { nStops := 3, nServices := 1,
    foot := [⟨0, 0, 0, 0⟩, ⟨1, 1, 0, 0⟩, ⟨2, 2, 0, 0⟩, ⟨1, 2, 60, 50⟩],
    lines := [⟨0, 0⟩], paths := [⟨0, [0, 1], [10]⟩],
    trips := [⟨5, 0, 0, [1000, 1300], [1000, 1300], [true, true], [true, true]⟩],
    scenarios := [{ services := [0], onlyLines := [], exceptLines := [], onlyAgencies := [], exceptAgencies := [], onlyModes := [], exceptModes := [] }],
    access := [⟨0, 100, 80⟩], egress := [⟨1, 200, 150⟩] }
def nvFwd' : Params := { forward := true, time := 500, scenario := 0, minWait := 60, maxFirstWait := 900 }

/-- non-vacuity of `FwdRange`; the two accessibility maps are indeed shifted copies -/
theorem nv_full_shift :
    FwdRange nvDs' nvFwd' 3700 100000 60 ∧ TripsAligned nvDs' ∧
    (match calculateAllNodes nvDs' nvFwd', calculateAllNodes (shiftDs 3700 nvDs') (shiftP 3700 nvFwd') with
      | .ok (l, _), .ok (l', _) => decide (l.map (fun (a : AccNode) => (a.stop, a.nodeTime + 3700, a.totalTravelTime, a.numberOfTransfers)) =
          l'.map (fun (a : AccNode) => (a.stop, a.nodeTime, a.totalTravelTime, a.numberOfTransfers))) && !l.isEmpty
      | _, _ => false) = true := by
  refine ⟨⟨by decide, by decide, footOf_time_le _ 60 (by decide), by decide, ?_, by decide⟩, ?_, by decide⟩
  · unfold ConnsLe; decide
  · unfold TripsAligned; decide

end Tr
