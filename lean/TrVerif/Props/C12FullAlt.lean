/-
  Props/C12FullAlt — translation invariance of the calculation itself for ALTERNATIVES queries: the search loop of
  `alternativesRouting` (which lines to exclude next, when to stop, which routes to keep) depends on the routes only through
  durations and line sets, so with every single calculation equivariant (`C12_full_route_*`) the whole search is.
-/
import TrVerif.Props.C12FullRouteDep
namespace Tr

def shAltOut (k : Int) : Outcome (List Route × Nat) → Outcome (List Route × Nat)
  | .ok (l, n) => .ok (l.map (shRoute k), n)
  | .noRouting r => .noRouting r
  | .exception w => .exception w

def shAlt (k : Int) (st : AltState) : AltState := { st with routes := st.routes.map (shRoute k) }

def shAltSt (k : Int) : Outcome AltState → Outcome AltState
  | .ok st => .ok (shAlt k st)
  | .noRouting r => .noRouting r
  | .exception w => .exception w

theorem routeLines_shift (k : Int) (ds : Dataset) (r : Route) : routeLines (shiftDs k ds) (shRoute k r) = routeLines ds r := by
  unfold routeLines
  simp only [shRoute, List.filterMap_map]
  congr 1
  funext st
  cases st <;> simp [shStep, lineOfTrip_shift]

theorem altMaxTravelTime_shift (k : Int) (p : Params) (r : Route) : altMaxTravelTime (shiftP k p) (shRoute k r) = altMaxTravelTime p r := by
  unfold altMaxTravelTime
  have e : (shRoute k r).departureTime - (shiftP k p).time = r.departureTime - p.time := by
    show r.departureTime + k - (p.time + k) = _; omega
  simp only [e]
  rfl

/-- stated for any state `st'` that is the shifted `st`, so that it applies to a state written out field by field -/
theorem addCombos_shift (k : Int) (comb : List Nat) (l : List (List Nat)) {st st' : AltState} (h : st' = shAlt k st) :
    addCombos comb st' l = shAlt k (addCombos comb st l) := by
  induction l generalizing st st' with
  | nil => exact h
  | cons nc rest ih =>
    subst h
    simp only [addCombos]
    have e1 : (shAlt k st).calculated = st.calculated := rfl
    have e2 : (shAlt k st).failed = st.failed := rfl
    have e3 : (shAlt k st).allComb = st.allComb := rfl
    simp only [e1, e2, e3]
    split <;> exact ih rfl

theorem altLoop_shift (k : Int) (ds ds' : Dataset) (cs cs' : ConnSet) (pAlt pAlt' : Params) (base : List Nat) (A E : List NTD)
    (hlines : ∀ r, routeLines ds' (shRoute k r) = routeLines ds r)
    (H : ∀ ex, calculateSingleWith ds' cs' { pAlt' with exceptLines := ex } A E = shRouteOut k (calculateSingleWith ds cs { pAlt with exceptLines := ex } A E)) :
    ∀ (fuel i : Nat) (st : AltState),
      altLoop ds' cs' pAlt' base A E fuel i (shAlt k st) = shAltSt k (altLoop ds cs pAlt base A E fuel i st) := by
  intro fuel
  induction fuel with
  | zero => intro i st; rfl
  | succ fuel ih =>
    intro i st
    simp only [altLoop]
    have e1 : (shAlt k st).allComb = st.allComb := rfl
    have e2 : (shAlt k st).count = st.count := rfl
    have e3 : (shAlt k st).seq = st.seq := rfl
    have e4 : (shAlt k st).found = st.found := rfl
    simp only [e1, e2, e3, e4]
    cases hc : st.allComb[i]? with
    | none => rfl
    | some combination =>
      simp only
      by_cases g : st.count < 200 ∧ st.seq - 1 < 50
      · simp only [if_pos g]
        rw [H]
        cases hr : calculateSingleWith ds cs { pAlt with exceptLines := base ++ combination } A E with
        | exception w => rfl
        | noRouting _ =>
          simp only [shRouteOut]
          exact ih (i+1) { st with failed := st.failed ++ [combination], count := st.count + 1 }
        | ok r =>
          simp only [shRouteOut, hlines]
          generalize sortNat (routeLines ds r) = fl
          by_cases g2 : ¬ fl.isEmpty = true ∧ ¬ st.found.contains fl = true
          · simp only [if_pos g2]
            rw [addCombos_shift k combination (allCombos fl) (st := { st with routes := st.routes ++ [r], found := st.found ++ [fl] })
              (by simp only [shAlt, List.map_append, List.map_cons, List.map_nil])]
            generalize addCombos combination _ (allCombos fl) = st2
            exact ih (i+1) { st2 with seq := st2.seq + 1, count := st2.count + 1 }
          · simp only [if_neg g2]
            exact ih (i+1) { st with count := st.count + 1 }
      · simp only [if_neg g]
        exact ih (i+1) st

/-- `hsingle`: the single calculations the search makes are the same request with another travel-time limit and another set of
    excluded lines -/
theorem alternativesRouting_shift (k : Int) (ds : Dataset) (p : Params)
    (hsingle : ∀ (m : Int) (ex : List Nat), calculateSingle (shiftDs k ds) (shiftP k { p with maxTotal := m, exceptLines := ex }) =
      shRouteOut k (calculateSingle ds { p with maxTotal := m, exceptLines := ex })) :
    alternativesRouting (shiftDs k ds) (shiftP k p) = shAltOut k (alternativesRouting ds p) := by
  unfold alternativesRouting alternativesRoutingCS
  simp only [scenarioOf_shift]
  rw [lookupAccess_shift, lookupEgress_shift]
  have h0 := hsingle p.maxTotal p.exceptLines
  have h0' : calculateSingleWith ((shiftDs k ds).restrict ((shiftDs k ds).connSetOf (ds.scenarioOf p))) ((shiftDs k ds).connSetOf (ds.scenarioOf p)) (shiftP k p)
      (routerLookup (ds.restrict (ds.connSetOf (ds.scenarioOf p))).access p.maxAccess) (routerLookup (ds.restrict (ds.connSetOf (ds.scenarioOf p))).egress p.maxEgress) =
      shRouteOut k (calculateSingleWith (ds.restrict (ds.connSetOf (ds.scenarioOf p))) (ds.connSetOf (ds.scenarioOf p)) p
      (routerLookup (ds.restrict (ds.connSetOf (ds.scenarioOf p))).access p.maxAccess) (routerLookup (ds.restrict (ds.connSetOf (ds.scenarioOf p))).egress p.maxEgress)) := h0
  rw [h0']
  generalize calculateSingleWith _ _ p _ _ = r
  cases r with
  | exception w => rfl
  | noRouting r => rfl
  | ok r0 =>
    simp only [shRouteOut]
    have hlines : ∀ r, routeLines ((shiftDs k ds).restrict ((shiftDs k ds).connSetOf (ds.scenarioOf p))) (shRoute k r) =
        routeLines (ds.restrict (ds.connSetOf (ds.scenarioOf p))) r := by
      intro r; rw [restrict_shift]; exact routeLines_shift k _ r
    rw [hlines, altMaxTravelTime_shift]
    generalize sortNat (routeLines (ds.restrict (ds.connSetOf (ds.scenarioOf p))) r0) = fl
    have hst0 : ({ routes := [shRoute k r0], allComb := (allCombos fl).map sortNat, calculated := (allCombos fl).map sortNat, found := [fl] } : AltState) = shAlt k { routes := [r0], allComb := (allCombos fl).map sortNat, calculated := (allCombos fl).map sortNat, found := [fl] } := rfl
    rw [hst0]
    have hloop := altLoop_shift k (ds.restrict (ds.connSetOf (ds.scenarioOf p))) ((shiftDs k ds).restrict ((shiftDs k ds).connSetOf (ds.scenarioOf p)))
      (ds.connSetOf (ds.scenarioOf p)) ((shiftDs k ds).connSetOf (ds.scenarioOf p))
      { p with maxTotal := altMaxTravelTime p r0 } { shiftP k p with maxTotal := altMaxTravelTime p r0 } p.exceptLines
      (routerLookup (ds.restrict (ds.connSetOf (ds.scenarioOf p))).access p.maxAccess) (routerLookup (ds.restrict (ds.connSetOf (ds.scenarioOf p))).egress p.maxEgress)
      hlines (fun ex => hsingle (altMaxTravelTime p r0) ex)
    erw [hloop]
    generalize altLoop _ _ _ _ _ _ 100000 0 _ = r
    cases r <;> rfl

/-- **C12 in full for alternatives queries** (the entry point the server runs, with the hour index), both time types: for every
    well-formed dataset, every query and every offset such that request and shifted request lie in [0, 32 h) and the range conditions
    hold, the list of alternatives of the shifted problem is the shifted list, after the same number of calculations. -/
theorem C12_full_alternatives (ds : Dataset) (hwf : WFData ds) (p : Params) (k L B W : Int) (hal : TripsAligned ds)
    (hmw : 0 ≤ p.minWait) (hmt : 0 ≤ p.maxTransfer)
    (R : (p.forward = true ∧ RouteFwdRange ds p k L B W) ∨ (p.forward = false ∧ RouteRevRange ds p k L B W))
    (h0 : 0 ≤ p.time) (ht : p.time < (HOUR_END : Int) * 3600) (h0' : 0 ≤ p.time + k) (ht' : p.time + k < (HOUR_END : Int) * 3600)
    (hacc : ∀ a ∈ ds.access, 0 ≤ a.time) (hegr : ∀ g ∈ ds.egress, 0 ≤ g.time) :
    alternativesRouting (shiftDs k ds) (shiftP k p) = shAltOut k (alternativesRouting ds p) := by
  apply alternativesRouting_shift
  intro m ex
  -- the range conditions read the request's time, waiting time and scenario only: they hold, field by field, of the request with
  -- another limit and exclusion list
  rcases R with ⟨hf, R⟩ | ⟨hf, R⟩
  · exact C12_full_route_departure_indexed ds hwf { p with maxTotal := m, exceptLines := ex } k L B W hal hf hmw hmt
      ⟨R.hL, R.hLk, R.hB, R.hB0, R.hW, R.time0, R.timek, R.foot, R.rfoot, R.connsF, R.connsR, R.access0, R.egrB, R.egress, R.access⟩ ht ht' hacc hegr
  · exact C12_full_route_arrival_indexed ds hwf { p with maxTotal := m, exceptLines := ex } k L B W hal hf hmw hmt
      ⟨R.hL, R.hLk, R.hB, R.hB0, R.hW, R.rfoot, R.conns, R.egress, R.access⟩ h0 ht h0' ht' hacc hegr

/-- non-vacuity of the hypotheses of `C12_full_alternatives`, both time types, for an offset that moves the request across an hour
    mark; the two lists of alternatives are shifted copies -/
theorem nv_full_alternatives :
    RouteFwdRange nvDs' nvFwd' 1700 600 100000 60 ∧ RouteRevRange nvDs' nvRev' 1700 600 100000 60 ∧
    (match alternativesRouting nvDs' nvFwd', alternativesRouting (shiftDs 1700 nvDs') (shiftP 1700 nvFwd') with
      | .ok (l, n), .ok (l', n') => decide (l.map (shRoute 1700) = l') && decide (n = n') && !l.isEmpty
      | _, _ => false) = true ∧
    (match alternativesRouting nvDs' nvRev', alternativesRouting (shiftDs 1700 nvDs') (shiftP 1700 nvRev') with
      | .ok (l, n), .ok (l', n') => decide (l.map (shRoute 1700) = l') && decide (n = n') && !l.isEmpty
      | _, _ => false) = true :=
  ⟨nv_full_route_departure.1, nv_full_route_arrival.1, by decide, by decide⟩

end Tr
