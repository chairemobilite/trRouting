/-
  Property C07, the reverse side — NO_SERVICE_TO_DESTINATION (arrival-time route queries) and
  NO_SERVICE_AT_PLACE (arrival-time accessibility) characterised by the data (`CaughtR`).
  The scan-level lemmas mirror `Props/C07Scan.lean`.
-/
import TrVerif.Props.C04
import TrVerif.Props.C07
import TrVerif.Proofs.Fold
namespace Tr

/-- connection `c` would be counted by the reverse pass on the initial tables -/
def CaughtR (cx : Ctx) (single : Bool) (c : Conn) : Prop :=
  c.arr ≤ cx.arrT - (if single = true then cx.minEgress else 0) ∧ cx.disabled c.trip = false ∧
  cx.arrT - c.arr ≤ cx.p.maxTotal ∧ c.arr ≤ (RState.init cx).lab c.arrStop

theorem revFold_count_mono (cx : Ctx) (u : Nat → Bool) (single : Bool) (l : List Conn) (s : RState) :
    s.count ≤ (l.foldl (revStep cx u single) s).count :=
  foldl_inv (fun t : RState => s.count ≤ t.count) (fun t c _ ht => Nat.le_trans ht (revStep_count_le cx u single t c))
    (Nat.le_refl _)

theorem revFold_stopped (cx : Ctx) (u : Nat → Bool) (single : Bool) (l : List Conn) {s : RState} (h : s.stop = true) :
    l.foldl (revStep cx u single) s = s :=
  foldl_inv (· = s) (fun t c _ ht => by rw [ht]; unfold revStep; rw [if_pos h]) rfl

theorem revStep_init (cx : Ctx) (u : Nat → Bool) (single : Bool) (c : Conn) :
    (u c.trip = true ∧ CaughtR cx single c ∧ 1 ≤ (revStep cx u single (RState.init cx) c).count) ∨
    (cx.arrT - c.arr > cx.p.maxTotal ∧ revStep cx u single (RState.init cx) c = { RState.init cx with stop := true }) ∨
    (¬ (u c.trip = true ∧ CaughtR cx single c) ∧ revStep cx u single (RState.init cx) c = RState.init cx) := by
  unfold revStep
  rw [if_neg (by simp [RState.init])]
  by_cases h1 : c.arr ≤ cx.arrT - (if single = true then cx.minEgress else 0)
  · rw [if_neg (fun h => h h1)]
    by_cases h2 : u c.trip = true ∧ ¬ cx.disabled c.trip = true
    · rw [if_neg (fun h => h h2)]
      have hbreak : revBreak cx single (RState.init cx) c = decide (cx.arrT - c.arr > cx.p.maxTotal) := by
        unfold revBreak
        simp [RState.init]
      rw [hbreak]
      by_cases h3 : cx.arrT - c.arr > cx.p.maxTotal
      · rw [if_pos (decide_eq_true h3)]
        exact Or.inr (Or.inl ⟨h3, rfl⟩)
      · rw [if_neg (by simpa using h3), show (RState.init cx).exitC c.trip = none from rfl]
        simp only [Option.isSome_none, Bool.false_eq_true, false_or]
        by_cases h4 : (RState.init cx).lab c.arrStop ≥ c.arr
        · rw [if_neg (fun h => h h4)]
          refine Or.inl ⟨h2.1, ⟨h1, by simpa using h2.2, by omega, h4⟩, ?_⟩
          simp only
          omega
        · rw [if_pos h4]
          exact Or.inr (Or.inr ⟨fun h => h4 h.2.2.2.2, rfl⟩)
    · rw [if_pos h2]
      exact Or.inr (Or.inr ⟨fun h => h2 ⟨h.1, by rw [h.2.2.1]; exact Bool.false_ne_true⟩, rfl⟩)
  · rw [if_pos h1]
    exact Or.inr (Or.inr ⟨fun h => h1 h.2.1, rfl⟩)

theorem revFold_count_zero (cx : Ctx) (u : Nat → Bool) (single : Bool) {l : List Conn} (hs : SortedRev l) :
    (l.foldl (revStep cx u single) (RState.init cx)).count = 0 ↔ ∀ c ∈ l, u c.trip = true → ¬ CaughtR cx single c := by
  induction l with
  | nil => simp [RState.init]
  | cons c rest ih =>
    obtain ⟨hc, hrest⟩ := List.pairwise_cons.mp hs
    rw [List.foldl_cons, List.forall_mem_cons]
    rcases revStep_init cx u single c with ⟨hu, h, hcount⟩ | ⟨hlate, heq⟩ | ⟨h, heq⟩
    · have := revFold_count_mono cx u single rest (revStep cx u single (RState.init cx) c)
      exact ⟨fun h0 => by omega, fun hall => absurd h (hall.1 hu)⟩
    · -- the rest of the list arrives no later, hence too early as well
      rw [heq, revFold_stopped cx u single rest rfl]
      refine ⟨fun _ => ⟨fun _ h => by have := h.2.2.1; omega, fun d hd _ h => ?_⟩, fun _ => rfl⟩
      have hord := hc d hd
      simp only [revLt, Bool.or_eq_false_iff, decide_eq_false_iff_not] at hord
      have := h.2.2.1
      omega
    · rw [heq, ih hrest]
      exact ⟨fun hall => ⟨fun hu hcd => h ⟨hu, hcd⟩, hall⟩, fun hall => hall.2⟩

theorem revScan_count_zero (cx : Ctx) (u : Nat → Bool) (single : Bool) (hs : SortedRev cx.cs.rev) (start : Nat) :
    (revScan cx u single start).count = 0 ↔ ∀ c ∈ cx.cs.rev.drop start, u c.trip = true → ¬ CaughtR cx single c :=
  revFold_count_zero cx u single (List.Pairwise.sublist (List.drop_sublist _ _) hs)

theorem revStep_late (cx : Ctx) (u : Nat → Bool) (single : Bool) (s : RState) (c : Conn)
    (h : c.arr > cx.arrT - (if single = true then cx.minEgress else 0)) : revStep cx u single s c = s := by
  unfold revStep
  by_cases h0 : s.stop = true
  · rw [if_pos h0]
  · rw [if_neg h0, if_pos (by omega)]

theorem revScan_from_start (cx : Ctx) (u : Nat → Bool) (single : Bool) (start : Nat)
    (h : ∀ c ∈ cx.cs.rev.take start, c.arr > cx.arrT - (if single = true then cx.minEgress else 0)) :
    revScan cx u single start = revScan cx u single 0 := by
  unfold revScan
  rw [List.drop_zero]
  conv => rhs; rw [← List.take_append_drop start cx.cs.rev, List.foldl_append]
  rw [foldl_inv (l := cx.cs.rev.take start) (· = RState.init cx)
    (fun s c hc hs => by rw [hs]; exact revStep_late cx u single _ c (h c hc)) rfl]

/-- the hour index is transparent for a reverse scan: what lies before the start position arrives after the
    requested time, and the first test of the step discards it -/
theorem revScan_index_free (cx : Ctx) (u : Nat → Bool) (single : Bool) (hidx : cx.cs.revIdx = revIndex cx.cs.rev)
    (h0 : 0 ≤ cx.arrT) (hme : single = true → 0 ≤ cx.minEgress) {start : Nat}
    (hst : lookupPos (revLookup cx.cs.rev cx.cs.revIdx (hourOf cx.arrT + 1)) = some start) :
    revScan cx u single start = revScan cx u single 0 :=
  revScan_from_start cx u single start fun c hc => by
    have := before_start_late cx.cs hidx cx.arrT h0 start hst c hc
    split
    · have := hme ‹_›; omega
    · omega

theorem revScan_count_zero_all (cx : Ctx) (single : Bool) (hs : SortedRev cx.cs.rev) (hidx : cx.cs.revIdx = revIndex cx.cs.rev)
    (h0 : 0 ≤ cx.arrT) (hme : single = true → 0 ≤ cx.minEgress) {start : Nat}
    (hst : lookupPos (revLookup cx.cs.rev cx.cs.revIdx (hourOf cx.arrT + 1)) = some start) :
    (revScan cx (fun _ => true) single start).count = 0 ↔ ∀ c ∈ cx.cs.rev, ¬ CaughtR cx single c := by
  rw [revScan_index_free cx _ single hidx h0 hme hst, revScan_count_zero cx _ single hs 0, List.drop_zero]
  exact ⟨fun hall c hc => hall c hc rfl, fun hall c hc _ => hall c hc⟩

/-- **C07 (NO_SERVICE_TO_DESTINATION).** For every dataset, scenario and arrival-time query with 0 <= time_of_trip,
    non-negative egress walks and a stop offered at both ends: `/v2/route` answers NO_SERVICE_TO_DESTINATION exactly
    when no connection of a trip the scenario admits arrives at an egress stop early enough to walk to the
    destination by the requested time, within max_travel_time. -/
theorem C07_route_no_service_to_destination (ds : Dataset) (p : Params) (hp : p.forward = false) (h0 : 0 ≤ p.time)
    (ha : routerLookup ds.access p.maxAccess ≠ []) (he : routerLookup ds.egress p.maxEgress ≠ [])
    (hegr : ∀ g ∈ ds.egress, 0 ≤ g.time) :
    calculateSingle ds p = .noRouting .noServiceToDestination ↔
      ∀ c ∈ (ds.connSetOf (ds.scenarioOf p)).rev,
        ¬ CaughtR (mkCtx (ds.restrict (ds.connSetOf (ds.scenarioOf p))) p (ds.connSetOf (ds.scenarioOf p))
            (routerLookup ds.access p.maxAccess) (routerLookup ds.egress p.maxEgress) (-1) p.time) true c := by
  obtain ⟨start, hst⟩ := rev_start_exists (ds.connSetOf (ds.scenarioOf p)).rev (hourOf p.time + 1)
  exact (calculateSingleWith_toDestination_iff ha he hp hst).trans
    (revScan_count_zero_all (qCtx ds p _ _ (-1) p.time) true (connSetOf_sorted ds _) rfl h0
      (fun _ => minTime_routerLookup_nonneg hegr _) hst)

/-- **C07 (NO_SERVICE_AT_PLACE, arrival-time accessibility).** The same for the accessibility calculation, whose
    `noServiceToDestination` is rendered NO_SERVICE_AT_PLACE. -/
theorem C07_no_service_at_place_reverse (ds : Dataset) (p : Params) (hp : p.forward = false) (h0 : 0 ≤ p.time)
    (he : routerLookup ds.egress p.maxEgress ≠ []) :
    calculateAllNodes ds p = .noRouting .noServiceToDestination ↔
      ∀ c ∈ (ds.connSetOf (ds.scenarioOf p)).rev,
        ¬ CaughtR (qCtx ds p [] (routerLookup ds.egress p.maxEgress) (-1) p.time) false c := by
  obtain ⟨start, hst⟩ := rev_start_exists (ds.connSetOf (ds.scenarioOf p)).rev (hourOf p.time + 1)
  exact (calculateAllNodesCS_toDestination_iff hp he hst).trans
    (revScan_count_zero_all (qCtx ds p _ _ (-1) p.time) false (connSetOf_sorted ds _) rfl h0 (fun h => nomatch h) hst)

end Tr
