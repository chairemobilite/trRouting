/-
  Property C07 at dataset level, departure-time queries: the NO_SERVICE reason characterised by the connections
  of the scenario and the access stops, for queries inside the clock range [0, 32 h).
-/
import TrVerif.Props.C07
import TrVerif.Props.C07Scan
import TrVerif.Props.C08
namespace Tr

/-- **C07 (NO_SERVICE_FROM_ORIGIN).** For every dataset, scenario and departure-time query with
    0 <= time_of_trip < 32 h, non-negative access walks and a stop offered at both ends:
    `/v2/route` answers NO_SERVICE_FROM_ORIGIN exactly when no connection of a trip the scenario
    admits can be caught from an access stop within the limits. -/
theorem C07_route_no_service_from_origin (ds : Dataset) (p : Params) (hp : p.forward = true)
    (h0 : 0 ≤ p.time) (ht : p.time < (HOUR_END : Int) * 3600)
    (ha : routerLookup ds.access p.maxAccess ≠ []) (he : routerLookup ds.egress p.maxEgress ≠ [])
    (hacc : ∀ a ∈ ds.access, 0 ≤ a.time) :
    calculateSingle ds p = .noRouting .noServiceFromOrigin ↔
      ∀ c ∈ (ds.connSetOf (ds.scenarioOf p)).fwd,
        ¬ CaughtF (mkCtx (ds.restrict (ds.connSetOf (ds.scenarioOf p))) p (ds.connSetOf (ds.scenarioOf p))
            (routerLookup ds.access p.maxAccess) (routerLookup ds.egress p.maxEgress) p.time (-1)) c := by
  obtain ⟨start, hst⟩ := fwd_start_exists (ds.connSetOf (ds.scenarioOf p)).fwd (hourOf p.time)
  exact C07_no_service_from_origin_data (ds.restrict (ds.connSetOf (ds.scenarioOf p))) (ds.connSetOf (ds.scenarioOf p)) p _ _ hp
    (connSetOf_sortedFwd ds _) rfl ha he (fun a ha' => hacc a (List.mem_filter.mp ha').1) h0 ht start hst

/-- **C07 (NO_SERVICE_AT_PLACE, departure-time accessibility).** Under the same hypotheses the accessibility calculation
    answers `noServiceFromOrigin` (rendered NO_SERVICE_AT_PLACE) under the same condition. -/
theorem C07_no_service_at_place_forward_data (ds : Dataset) (p : Params) (hp : p.forward = true)
    (h0 : 0 ≤ p.time) (ht : p.time < (HOUR_END : Int) * 3600) (ha : routerLookup ds.access p.maxAccess ≠ [])
    (hacc : ∀ a ∈ ds.access, 0 ≤ a.time) :
    calculateAllNodes ds p = .noRouting .noServiceFromOrigin ↔
      ∀ c ∈ (ds.connSetOf (ds.scenarioOf p)).fwd, ¬ CaughtF (qCtx ds p (routerLookup ds.access p.maxAccess) [] p.time (-1)) c := by
  obtain ⟨start, hst⟩ := fwd_start_exists (ds.connSetOf (ds.scenarioOf p)).fwd (hourOf p.time)
  exact (calculateAllNodesCS_fromOrigin_iff hp ha hst).trans
    (fwdScan_count_zero_all (qCtx ds p _ [] p.time (-1)) false (connSetOf_sortedFwd ds _) rfl h0 ht
      (minTime_routerLookup_nonneg hacc _) hst)

end Tr
