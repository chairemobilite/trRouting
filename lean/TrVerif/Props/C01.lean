/-
  Property C01 — every returned route is an executable itinerary in the scenario timetable.

  `C01` (bottom of this file): for every well-formed dataset, scenario and query, both time
  types, every route returned by the single calculation is a `ValidItinerary`
  (`Spec/Itinerary.lean`).  `C01_with` is the same for any recalculation of the alternatives
  search.  The chain:
    reverse-scan invariant            Proofs/Reverse.lean      (revScanList_inv)
    reconstruction -> valid journey   Proofs/JourneyValid.lean (reconLoop_valid)
    clean-up preserves validity       Proofs/Cleanup.lean      (cleanupPreserves: CSL/BTS/GTF/CSS)
    emission -> valid itinerary       Proofs/Assembly.lean     (emit_valid; RenderValid.lean, Emit.lean)
    dataset facts                     Proofs/DataFacts.lean, Slice.lean, DataWF.lean
  The chain is put together once, in `calcWith_journey`: every route is `emit` of a valid journey
  (`JourneyOK`).  The query's excluded trips are handled by running it over the NON-excluded
  connections: the reverse scan skips an excluded connection, so it is the scan of the filtered
  list, and every connection of the journey is a member of that list.
-/
import TrVerif.Proofs.Assembly
import TrVerif.Proofs.Sort
import TrVerif.Proofs.DataFacts
import TrVerif.Proofs.DataWF
import TrVerif.Proofs.Fold
import TrVerif.Proofs.ForwardSingle
namespace Tr

theorem singleReverse_emits_in {cx : Ctx} (usable : Nat → Bool) {C : List Conn}
    (hC : ∀ c ∈ cx.cs.rev.filter cx.allowed, c ∈ C)
    (hs : SortedRev cx.cs.rev) (hm : ArrMono cx.cs.rev) (hmw : 0 ≤ cx.p.minWait)
    (hclean : CleanupPreserves cx C) {r : Route} (h : singleReverse cx usable = .ok r) :
    ∃ bd j, r = emit cx.ds cx.p.minWait bd j ∧ JourneyOK cx C bd j ∧
      0 ≤ bd ∧ cx.arrT - bd ≤ cx.p.maxTotal ∧ (cx.depT ≠ -1 → cx.depT ≤ bd) := by
  unfold singleReverse at h
  split at h
  · cases h
  simp only at h
  split at h
  · cases h
  exact reverseJourney_emits (revScan_RInv usable true hC hs hm hmw _) hclean h

theorem singleReverse_emits {cx : Ctx} (usable : Nat → Bool)
    (hs : SortedRev cx.cs.rev) (hm : ArrMono cx.cs.rev) (hmw : 0 ≤ cx.p.minWait)
    (hclean : CleanupPreserves cx cx.cs.rev) {r : Route} (h : singleReverse cx usable = .ok r) :
    ∃ bd j, r = emit cx.ds cx.p.minWait bd j ∧ JourneyOK cx cx.cs.rev bd j ∧
      0 ≤ bd ∧ cx.arrT - bd ≤ cx.p.maxTotal ∧ (cx.depT ≠ -1 → cx.depT ≤ bd) :=
  singleReverse_emits_in usable mem_of_filter hs hm hmw hclean h

theorem bestEgress_spec {cx : Ctx} {s : FState} {t : Int} {n : Nat} (h : bestEgress cx s = some (t, n)) :
    t - cx.depT ≤ cx.p.maxTotal := by
  obtain ⟨_, _, _, _, _, _, _, _, _, hT, _⟩ := bestEgress_sound h
  exact hT

/-- The calculation answers `no_routing_found` itself, or fails to read the hour index of the forward
    list, or answers what its reverse pass answers, run from the requested arrival time or, for a
    departure-time query, from the best arrival of the forward pass, which lies within
    `max_travel_time` of the requested departure. -/
theorem calculateSingleWith_outcome (ds : Dataset) (cs : ConnSet) (p : Params) (accessFoot egressFoot : List NTD) :
    (∃ reason, calculateSingleWith ds cs p accessFoot egressFoot = .noRouting reason) ∨
    (lookupPos (fwdLookup cs.fwd cs.fwdIdx (hourOf p.time)) = none ∧
      ∃ what, calculateSingleWith ds cs p accessFoot egressFoot = .exception what) ∨
    ∃ depT arrT usable,
      calculateSingleWith ds cs p accessFoot egressFoot = singleReverse (mkCtx ds p cs accessFoot egressFoot depT arrT) usable ∧
      (p.forward = true → depT = p.time ∧ arrT - p.time ≤ p.maxTotal) ∧
      (p.forward = false → depT = -1 ∧ arrT = p.time) := by
  generalize ho : calculateSingleWith ds cs p accessFoot egressFoot = o
  unfold calculateSingleWith at ho
  split at ho
  · exact Or.inl ⟨_, ho.symm⟩
  split at ho
  · exact Or.inl ⟨_, ho.symm⟩
  split at ho
  · exact Or.inl ⟨_, ho.symm⟩
  split at ho
  · rename_i hfwd
    simp only at ho
    split at ho
    · rename_i hl
      exact Or.inr (Or.inl ⟨hl, _, ho.symm⟩)
    split at ho
    · exact Or.inl ⟨_, ho.symm⟩
    split at ho
    · exact Or.inl ⟨_, ho.symm⟩
    rename_i bestArr _ hbe
    exact Or.inr (Or.inr ⟨p.time, bestArr, _, ho.symm, fun _ => ⟨rfl, bestEgress_spec hbe⟩, fun hf => by rw [hf] at hfwd; cases hfwd⟩)
  · rename_i hfwd
    exact Or.inr (Or.inr ⟨-1, p.time, _, ho.symm, fun hf => absurd hf hfwd, fun _ => ⟨rfl, rfl⟩⟩)

theorem calculateSingleWith_ok {ds : Dataset} {cs : ConnSet} {p : Params} {accessFoot egressFoot : List NTD} {r : Route}
    (h : calculateSingleWith ds cs p accessFoot egressFoot = .ok r) :
    ∃ depT arrT usable, singleReverse (mkCtx ds p cs accessFoot egressFoot depT arrT) usable = .ok r ∧
      (p.forward = true → depT = p.time ∧ arrT - p.time ≤ p.maxTotal) ∧
      (p.forward = false → depT = -1 ∧ arrT = p.time) := by
  rcases calculateSingleWith_outcome ds cs p accessFoot egressFoot with ⟨_, h'⟩ | ⟨_, _, h'⟩ | ⟨depT, arrT, usable, h', hFR⟩
  · rw [h'] at h; cases h
  · rw [h'] at h; cases h
  · exact ⟨depT, arrT, usable, h' ▸ h, hFR⟩

theorem calculateSingleWith_emits_allowed (ds : Dataset) (cs : ConnSet) (p : Params) (accessFoot egressFoot : List NTD)
    (hs : SortedRev cs.rev) (hm : ArrMono cs.rev) (hmw : 0 ≤ p.minWait)
    (hclean : ∀ depT arrT, CleanupPreserves (mkCtx ds p cs accessFoot egressFoot depT arrT)
      (cs.rev.filter (mkCtx ds p cs accessFoot egressFoot depT arrT).allowed))
    {r : Route} (h : calculateSingleWith ds cs p accessFoot egressFoot = .ok r) :
    ∃ depT arrT bd j, r = emit ds p.minWait bd j ∧
      JourneyOK (mkCtx ds p cs accessFoot egressFoot depT arrT) (cs.rev.filter (mkCtx ds p cs accessFoot egressFoot depT arrT).allowed) bd j ∧
      (p.forward = true → depT = p.time ∧ p.time ≤ bd) ∧ (p.forward = false → depT = -1 ∧ arrT = p.time) ∧
      0 ≤ bd ∧ arrT - bd ≤ p.maxTotal ∧ (p.forward = true → arrT - p.time ≤ p.maxTotal) := by
  obtain ⟨depT, arrT, usable, hr, hF, hR⟩ := calculateSingleWith_ok h
  obtain ⟨bd, j, h1, h2, h3, h4, h5⟩ := singleReverse_emits_in usable (fun _ hc => hc) hs hm hmw (hclean depT arrT) hr
  refine ⟨depT, arrT, bd, j, h1, h2, fun hf => ⟨(hF hf).1, ?_⟩, hR, h3, h4, fun hf => (hF hf).2⟩
  -- a requested departure of -1 is below every departure
  have hd : depT = p.time := (hF hf).1
  by_cases hn : depT = -1
  · omega
  · have h6 : depT ≤ bd := h5 hn
    omega

theorem cleanup_identity (ds : Dataset) (j : List JStep) (h : searchJourney ds [] j 0 [] = none) :
    optimizeJourney ds j = some { journey := j } := by
  simp [optimizeJourney, optimizeFuel, optimizeLoop, h]

/-- Every route returned by a calculation over a scenario's connection set, with any walking tables, is `emit` of a
    journey valid over the scenario's connections that the query allows; `depT`, `arrT` are the times of the context
    its reverse pass ran in.  The properties of a single route (C01, C02, C06, attainment) are read off this journey. -/
theorem calcWith_journey {ds : Dataset} (hwf : WFData ds) (sc : Scenario) (p : Params) (hmw : 0 ≤ p.minWait)
    (hmt : 0 ≤ p.maxTransfer) (a e : List NTD) {r : Route}
    (h : calculateSingleWith (ds.restrict (ds.connSetOf sc)) (ds.connSetOf sc) p a e = .ok r) :
    ∃ depT arrT bd j, r = emit (ds.restrict (ds.connSetOf sc)) p.minWait bd j ∧
      JourneyOK (mkCtx (ds.restrict (ds.connSetOf sc)) p (ds.connSetOf sc) a e depT arrT)
        ((ds.connSetOf sc).rev.filter (mkCtx (ds.restrict (ds.connSetOf sc)) p (ds.connSetOf sc) a e depT arrT).allowed) bd j ∧
      (p.forward = true → depT = p.time ∧ p.time ≤ bd) ∧ (p.forward = false → depT = -1 ∧ arrT = p.time) ∧
      0 ≤ bd ∧ arrT - bd ≤ p.maxTotal ∧ (p.forward = true → arrT - p.time ≤ p.maxTotal) :=
  calculateSingleWith_emits_allowed _ _ p a e (connSetOf_sorted ds sc) (timeWF_dataset hwf p hmw hmt sc a e 0 0).arrMono hmw
    (fun depT arrT => cleanupPreserves
      ((timeWF_dataset hwf p hmw hmt sc a e depT arrT).mono mem_of_filter)
      (sliceOK_dataset hwf p sc a e depT arrT).allowed) h

theorem allowed_conns {ds : Dataset} (hwf : WFData ds) (sc : Scenario) (p : Params) (q : Conn → Bool) :
    ∀ c ∈ (ds.connSetOf sc).rev.filter q, c ∈ ds.conns ∧ c.effWait p.minWait = ds.mwOfTrip p c.trip := fun c hc =>
  have hc' := connSetOf_rev_sub ds sc c (List.mem_filter.mp hc).1
  ⟨hc', conns_effWait hwf.toWFSchedule p c hc'⟩

/-- C01 for a calculation over any scenario's connection set with any walking tables.  For the routes of an
    alternatives answer this is clause (c) of C10: each alternative is `calculateSingleWith` on the same
    tables with more lines excluded and a smaller maximum. -/
theorem C01_with (ds : Dataset) (hwf : WFData ds) (p : Params) (hmw : 0 ≤ p.minWait) (hmt : 0 ≤ p.maxTransfer)
    (sc : Scenario) (a e : List NTD) {r : Route}
    (h : calculateSingleWith (ds.restrict (ds.connSetOf sc)) (ds.connSetOf sc) p a e = .ok r) :
    ValidItinerary ds.conns ds.foot a e (ds.mwOfTrip p) r := by
  obtain ⟨depT, arrT, bd, j, rfl, hJ, _⟩ := calcWith_journey hwf sc p hmw hmt a e h
  exact emit_valid (fun c hc => (allowed_conns hwf sc p _ c hc).1) (ds.mwOfTrip p)
    (fun c hc => (allowed_conns hwf sc p _ c hc).2) hJ

/-- **C01.**  For every well-formed dataset (unique trip identifiers; arrival and departure
    times non-decreasing along each trip and no hop of negative duration; walks >= 0; every stop
    a vehicle leaves from transferable to itself in 0 s), every scenario, every query whose
    minimum waiting time and transfer maximum are non-negative (the parameter parser guarantees
    both), departure- and arrival-time queries alike: a route returned by the single calculation
    is an executable itinerary - access walk offered by the router within the access maximum,
    rides on scheduled hops of one trip each, boarded before they are left, where boarding resp.
    alighting is permitted, at the scheduled times; transfer walks that are footpath records of
    the data for exactly the two stops they join; egress walk offered by the router; every
    boarding no earlier than the traveller's arrival at the stop plus the minimum waiting time
    in force for that trip. -/
theorem C01 (ds : Dataset) (hwf : WFData ds) (p : Params) (hmw : 0 ≤ p.minWait) (hmt : 0 ≤ p.maxTransfer)
    {r : Route} (h : calculateSingle ds p = .ok r) :
    ValidItinerary ds.conns ds.foot (routerLookup ds.access p.maxAccess) (routerLookup ds.egress p.maxEgress)
      (ds.mwOfTrip p) r :=
  C01_with ds hwf p hmw hmt _ _ _ h

end Tr
