/-
  Property C15 at record level: `/updateCache` re-runs the update calls of the handler (in handler order,
  return values ignored) on the files now on disk, over the loader model of `Model/Load.lean`.

  The handler's order rebuilds every table before the tables that are resolved against it (`C15_order`),
  so after `names=all` each table was built from new tables only: that is why the previous content of the
  tables does not matter.
  (The connection-set cache is cleared by the same calls: `C15_all`, `C15_schedules` in `Props/C15.lean`.)
-/
import TrVerif.Props.C16Load
namespace Tr.Load

/-- **C15 (record level)**: a refresh of all caches gives the tables of a fresh start on the same files,
    for ANY previous content of the tables; the `ub` flag is never lowered by an update call, so it must not be up before. -/
theorem C15_refresh_all_record_level (ds : Dataset) (h : Enc ds) (old : TD) (hub : old.ub = false) :
    updateNames (encode ds) ["all"] old = loadAll (encode ds) := by
  rw [C16_roundtrip ds h]
  have hN : getNodes (encode ds) = (0, expNodes ds) := getNodes_enc ds h.foot
  have hA : getIds (encode ds).agencies = (0, expIds 2 ds.nAgencies) := getIds_enc 2 ds.nAgencies
  have hS : getIds (encode ds).services = (0, expIds 3 ds.nServices) := getIds_enc 3 ds.nServices
  simp [updateNames, Gen.updateCacheNames, applyCall, hN, hA, hS, getLines_enc ds h, getPaths_enc ds h, getScenarios_enc ds h,
    schedules_enc ds h, finalSch_ub, hub]

/-- **C15 (record level)**: a refresh of the schedules alone — the other files unchanged — gives the tables of
    a fresh start on the new files. -/
theorem C15_refresh_schedules_record_level (ds0 ds : Dataset) (h0 : Enc ds0) (h : Enc ds)
    (same : ds0.nStops = ds.nStops ∧ ds0.nAgencies = ds.nAgencies ∧ ds0.nServices = ds.nServices ∧ ds0.foot = ds.foot ∧
            ds0.lines = ds.lines ∧ ds0.paths = ds.paths ∧ ds0.scenarios = ds.scenarios) :
    updateNames (encode ds) ["schedules"] (loadAll (encode ds0)) = loadAll (encode ds) := by
  obtain ⟨e1, e2, e3, e4, e5, e6, e7⟩ := same
  rw [C16_roundtrip ds h, C16_roundtrip ds0 h0]
  have eN : expNodes ds0 = expNodes ds := by unfold expNodes nodeAt rfootUpTo rcontrib Dataset.footOf; rw [e1, e4]
  have eL : expLines ds0 = expLines ds := by unfold expLines; rw [e5]
  have eP : expPaths ds0 = expPaths ds := by unfold expPaths; rw [e6]
  have eS : expScen ds0 = expScen ds := by unfold expScen; rw [e7]
  simp [updateNames, Gen.updateCacheNames, applyCall, e2, e3, eN, eL, eP, eS, schedules_enc ds h, finalSch_ub]

end Tr.Load
