/-
  Property C17 — missing, truncated, corrupt or inconsistent cache files never crash the server;
  it then serves what it could load or answers every request with data_error, naming the missing
  kind of data where something is missing.

  PARTIAL. What is proved here is the *decision logic* over fetch outcomes (`Model/Loader.lean`),
  for every assignment of an outcome (read n items / missing / failed after n items) to every
  cache kind: the theorems tagged **C17 (decision logic)** below.
  What the loaders' own code does with records of any content is `Props/C17Load.lean`.
  What is NOT proved: that every fetch on arbitrary bytes ends in one of the three outcomes without
  abort, uncaught exception or memory error. No executable model exhibits that; it is enumerated
  against the real ASan+UBSan binary (check/fault_checks.py), and the syntactic facts
  `C17_structure` are re-read from the source on every run.
-/
import TrVerif.Model.Loader
import TrVerif.Proofs.Fold
namespace Tr

/-- `getDataStatus` is transcribed three times: `startupStatus` here, `statusFrom order ds` (`Model/Refresh.lean`) and `TD.status`
    (`Model/Load.lean`); each unfolds to `statusOfCounts` of its own `count`, so this lemma and the next serve all three -/
theorem statusOfCounts_ready_iff (order : List (String × String)) (count : String → Nat)
    (hnr : ∀ p ∈ order, p.2 ≠ "READY") :
    statusOfCounts order count = "READY" ↔ ∀ p ∈ order, count p.1 ≠ 0 := by
  unfold statusOfCounts
  cases h : order.find? (fun p => count p.1 = 0) with
  | none => simpa using List.find?_eq_none.1 h
  | some p =>
    have hp := List.mem_of_find?_eq_some h
    exact ⟨fun e => absurd e (hnr p hp), fun hall => absurd (by simpa using List.find?_some h) (hall p hp)⟩

theorem statusOfCounts_names_empty (order : List (String × String)) (count : String → Nat)
    (h : statusOfCounts order count ≠ "READY") :
    ∃ p ∈ order, p.2 = statusOfCounts order count ∧ count p.1 = 0 := by
  unfold statusOfCounts at h ⊢
  cases hf : order.find? (fun p => count p.1 = 0) with
  | none => simp [hf] at h
  | some p =>
    refine ⟨p, List.mem_of_find?_eq_some hf, rfl, ?_⟩
    simpa using List.find?_some hf

theorem order_never_ready : ∀ p ∈ Gen.dataStatusOrder, p.2 ≠ "READY" := by decide

/-- **C17 (decision logic).** READY exactly when every needed collection is non-empty. -/
theorem C17_ready_iff (f : String → Fetch) :
    startupStatus f = "READY" ↔ ∀ p ∈ Gen.dataStatusOrder, countAfterLoad f p.1 ≠ 0 :=
  statusOfCounts_ready_iff _ _ order_never_ready

/-- **C17 (decision logic).** A non-READY status names a collection that really is empty. -/
theorem C17_names_empty (f : String → Fetch) (h : startupStatus f ≠ "READY") :
    ∃ p ∈ Gen.dataStatusOrder, p.2 = startupStatus f ∧ countAfterLoad f p.1 = 0 :=
  statusOfCounts_names_empty _ _ h

theorem lookup_loadFrom_missing (order : List (String × Bool)) (f : String → Fetch) (fn : String)
    (hm : f fn = .missing) : ((loadFrom order f).lookup fn).getD 0 = 0 := by
  induction order with
  | nil => simp [loadFrom]
  | cons p rest ih =>
    obtain ⟨g, tol⟩ := p
    unfold loadFrom
    by_cases hg : fn = g
    · subst hg; simp [hm, Fetch.count]
    · have hb : (fn == g) = false := by simpa using hg
      rw [List.lookup_cons, hb]
      by_cases hh : (f g).hard tol
      · simp [hh]
      · simp only [hh]; exact ih

/-- **C17 (decision logic).** When the file of a kind the calculation needs is missing, the server is never READY. -/
theorem C17_missing_file_not_ready (f : String → Fetch) (p : String × String) (hp : p ∈ Gen.dataStatusOrder)
    (hm : f (fillerOf p.1) = .missing) : startupStatus f ≠ "READY" := fun h =>
  (C17_ready_iff f).mp h p hp (lookup_loadFrom_missing _ f _ hm)

/-- **C17 (decision logic).** A server whose status has a non-empty `fastError` code answers every request
    with data_error and that code, and keeps its state. -/
theorem C17_every_request_data_error (l : Live) (h : fastError l.status ≠ "") (hist : List Request) (r : Request) :
    (l.run hist).handle r = (l, s!"{r.kind} data_error {fastError l.status}") := by
  have step : ∀ q : Request, l.handle q = (l, s!"{q.kind} data_error {fastError l.status}") := by
    intro q; unfold Live.handle; simp [h]
  have hrun : l.run hist = l := foldl_inv (· = l) (fun s q _ hs => by rw [hs, step q]) rfl
  rw [hrun, step r]

/-- **C17 (decision logic).** A READY server serves the data it loaded: the ordinary handler on that data. -/
theorem C17_ready_serves (l : Live) (h : fastError l.status = "") (r : Request) :
    (l.handle r).2 = (handle l.ds l.srv r).2 := by
  unfold Live.handle; simp [h]

def expectedCode (coll : String) : String :=
  if coll = "agencies" then "MISSING_DATA_AGENCIES"
  else if coll = "services" then "MISSING_DATA_SERVICES"
  else if coll = "nodes" then "MISSING_DATA_NODES"
  else if coll = "lines" then "MISSING_DATA_LINES"
  else if coll = "paths" then "MISSING_DATA_PATHS"
  else if coll = "scenarios" then "MISSING_DATA_SCENARIOS"
  else if coll = "trips" then "MISSING_DATA_SCHEDULES"
  else "?"

/-- the status -> errorCode table: every non-READY status of `getDataStatus` maps to the documented
    MISSING_DATA_* code of the collection it tests, READY maps to "" (no fast error) -/
theorem C17_codes :
    (Gen.dataStatusOrder.all fun p =>
        let code := fastError p.2
        code != "" && Gen.documentedCodes.contains code &&
        code == expectedCode p.1) = true
    ∧ fastError "READY" = "" ∧ fastError "DATA_READ_ERROR" = "DATA_ERROR" := by decide +kernel

/-- the seven collections `getDataStatus` tests are the seven the refresh model knows, each filled by
    a call `loadAllData` makes -/
theorem C17_tables_cover :
    Gen.dataStatusOrder.map (·.1) = ["agencies", "services", "nodes", "lines", "paths", "scenarios", "trips"] ∧
    (Gen.dataStatusOrder.all fun p => (Gen.loadOrder.map (·.1)).contains (fillerOf p.1)) = true := ⟨rfl, by decide +kernel⟩

/-- syntactic facts re-read from the source on every run: each loader deserialises inside `try` with
    handlers for kj::Exception and for everything else; the three endpoints test the data status
    before anything else; /updateCache answers, with the status recomputed, when an update throws -/
theorem C17_structure :
    (["loader_agencies_reads_inside_try_catch_all", "loader_services_reads_inside_try_catch_all",
      "loader_nodes_reads_inside_try_catch_all", "loader_lines_reads_inside_try_catch_all",
      "loader_paths_reads_inside_try_catch_all", "loader_scenarios_reads_inside_try_catch_all",
      "loader_trips_and_connections_reads_inside_try_catch_all", "loader_data_sources_reads_inside_try_catch_all",
      "loader_persons_reads_inside_try_catch_all", "loader_od_trips_reads_inside_try_catch_all",
      "handler_route_fast_error_first", "handler_summary_fast_error_first", "handler_accessibility_fast_error_first",
      "updateCache_answers_when_update_throws", "updateCache_recomputes_data_status"].all
        fun k => Gen.facts.lookup k == some true) = true := by decide +kernel

/-- non-vacuity: the paths file is missing and the line file fails half-way -/
example : startupStatus (fun fn => if fn = "updatePaths" then .missing else if fn = "updateLines" then .failed 0 else .ok 3) = "NO_LINES" := by
  decide +kernel

example : startupStatus (fun fn => if fn = "updatePaths" then .missing else .ok 3) = "NO_PATHS" := by decide +kernel

example : startupStatus (fun _ => .ok 3) = "READY" := by decide +kernel

end Tr
