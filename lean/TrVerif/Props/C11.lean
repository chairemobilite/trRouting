/-
  Property C11 — restricting a scenario is equivalent to deleting the excluded trips.

  `deleteExcluded ds sc` is the copy of the data from which the trips the scenario does not admit
  are physically removed and whose only scenario is the all-inclusive one.  The theorems say that
  the per-scenario connection set (trips, both filtered lists, both hour indices) and everything
  else a calculation reads are identical on both sides, hence all answers are.
  Mechanism proved: `filter` commutes with the stable sort (`Proofs/Sort.lean`), the hour index
  is a function of the filtered lists.
-/
import TrVerif.Model.Calc
import TrVerif.Proofs.DataFacts
namespace Tr

/-- does the scenario admit this trip record (service, line, agency, mode)? - written from the
    API description of scenarios -/
def Dataset.admitsTrip (ds : Dataset) (sc : Scenario) (tr : TripRec) : Bool :=
  let line := (ds.paths.getD tr.path default).line
  scenarioAdmits sc tr.service line (ds.lineRec line).agency (ds.lineRec line).mode

def Dataset.allInclusive (ds : Dataset) : Scenario :=
  { services := List.range ds.nServices, onlyLines := [], exceptLines := [], onlyAgencies := [],
    exceptAgencies := [], onlyModes := [], exceptModes := [] }

def Dataset.deleteExcluded (ds : Dataset) (sc : Scenario) : Dataset :=
  { ds with trips := ds.trips.filter (ds.admitsTrip sc), scenarios := [ds.allInclusive] }

structure WFIds (ds : Dataset) : Prop where
  nodup : (ds.trips.map (·.id)).Nodup
  services : ∀ tr ∈ ds.trips, tr.service < ds.nServices

theorem tripEnabled_of_mem {ds : Dataset} (h : WFIds ds) (sc : Scenario) {tr : TripRec} (hm : tr ∈ ds.trips) :
    ds.tripEnabled sc tr.id = ds.admitsTrip sc tr := by
  have hf : ds.tripRec? tr.id = some tr := find_of_mem_nodup h.nodup hm
  simp [Dataset.tripEnabled, Dataset.admitsTrip, Dataset.serviceOfTrip, Dataset.lineOfTrip, Dataset.agencyOfTrip,
    Dataset.modeOfTrip, Dataset.pathOfTrip, hf]

theorem wf_deleteExcluded {ds : Dataset} (h : WFIds ds) (sc : Scenario) : WFIds (ds.deleteExcluded sc) := by
  constructor
  · simp only [Dataset.deleteExcluded]
    exact List.Nodup.sublist (List.Sublist.map _ List.filter_sublist) h.nodup
  · intro tr hm
    simp only [Dataset.deleteExcluded] at hm ⊢
    exact h.services tr (List.mem_filter.mp hm).1

theorem allInclusive_admits {ds : Dataset} (h : WFIds ds) (sc : Scenario) {tr : TripRec}
    (hm : tr ∈ (ds.deleteExcluded sc).trips) :
    (ds.deleteExcluded sc).admitsTrip ds.allInclusive tr = true := by
  have hs := (wf_deleteExcluded h sc).services tr hm
  simp only [Dataset.deleteExcluded] at hs
  simp [Dataset.admitsTrip, Dataset.allInclusive, scenarioAdmits, hs]

theorem tripConns_delete (ds : Dataset) (sc : Scenario) (tr : TripRec) :
    (ds.deleteExcluded sc).tripConns tr = ds.tripConns tr := rfl

theorem conns_delete {ds : Dataset} (h : WFIds ds) (sc : Scenario) :
    (ds.deleteExcluded sc).conns = ds.conns.filter (fun c => ds.tripEnabled sc c.trip) :=
  (filter_flatMap ds.tripConns (ds.admitsTrip sc) _ ds.trips fun tr htr c hc => by
    rw [tripConns_trip ds tr c hc, tripEnabled_of_mem h sc htr]).symm

theorem enabled_delete {ds : Dataset} (h : WFIds ds) (sc : Scenario) {tr : TripRec}
    (htr : tr ∈ (ds.deleteExcluded sc).trips) :
    (ds.deleteExcluded sc).tripEnabled ds.allInclusive tr.id = true := by
  rw [tripEnabled_of_mem (wf_deleteExcluded h sc) _ htr]
  exact allInclusive_admits h sc htr

theorem enabled_all_delete {ds : Dataset} (h : WFIds ds) (sc : Scenario) :
    ∀ c ∈ (ds.deleteExcluded sc).conns, (ds.deleteExcluded sc).tripEnabled ds.allInclusive c.trip = true := by
  intro c hc
  obtain ⟨tr, htr, hc⟩ := mem_conns hc
  rw [tripConns_trip _ tr c hc]
  exact enabled_delete h sc htr

theorem sorted_conns_delete {ds : Dataset} (h : WFIds ds) (sc : Scenario) {lt : Conn → Conn → Bool}
    (hlt : StrictWeak lt) :
    (isort lt (ds.deleteExcluded sc).conns).filter (fun c => (ds.deleteExcluded sc).tripEnabled ds.allInclusive c.trip)
      = (isort lt ds.conns).filter (fun c => ds.tripEnabled sc c.trip) := by
  rw [List.filter_eq_self.mpr fun c hc => enabled_all_delete h sc c ((mem_isort lt c _).mp hc),
    conns_delete h sc, filter_isort lt hlt]

/-- **C11 (connection set).** The connection set of the reduced data under the all-inclusive
    scenario is the connection set of the original data under the restricting scenario: same
    trips, same forward and reverse lists, same hour indices. -/
theorem C11_connSet {ds : Dataset} (h : WFIds ds) (sc : Scenario) :
    (ds.deleteExcluded sc).connSetOf ds.allInclusive = ds.connSetOf sc := by
  have htrips : ((ds.deleteExcluded sc).trips.map (·.id)).filter ((ds.deleteExcluded sc).tripEnabled ds.allInclusive)
      = (ds.trips.map (·.id)).filter (ds.tripEnabled sc) := by
    rw [List.filter_eq_self.mpr, List.filter_map]
    · exact congrArg _ (List.filter_congr fun tr htr => (tripEnabled_of_mem h sc htr).symm)
    · intro t ht
      obtain ⟨tr, htr, rfl⟩ := List.mem_map.mp ht
      exact enabled_delete h sc htr
  unfold Dataset.connSetOf Dataset.fwdAll Dataset.revAll
  rw [htrips, sorted_conns_delete h sc fwdLt_strictWeak, sorted_conns_delete h sc revLt_strictWeak]

/-- what a calculation reads besides the connection set is the same on both sides -/
theorem C11_restrict {ds : Dataset} (h : WFIds ds) (sc : Scenario) :
    (ds.deleteExcluded sc).restrict (ds.connSetOf sc) = ds.restrict (ds.connSetOf sc) := by
  simp only [Dataset.restrict, Dataset.deleteExcluded]
  congr 1
  rw [List.filter_filter]
  apply List.filter_congr
  intro tr htr
  -- a trip the connection set lists is enabled, hence admitted
  refine Bool.and_eq_left_iff_imp.mpr fun hc => ?_
  rw [← tripEnabled_of_mem h sc htr]
  exact (mem_connSetOf_trips.mp (List.contains_iff_mem.mp hc)).2

/-- **C11.** For every dataset with unique trip identifiers and declared services, every
    scenario definition `sc` and every query `p`: the route calculation, the accessibility
    calculation and the alternatives search run on the reduced data with the all-inclusive
    scenario give exactly the answers they give on the original data with `sc` (the scenario
    index inside `p` only selects the connection set; the `…CS` functions never read it). -/
theorem C11_answers {ds : Dataset} (h : WFIds ds) (sc : Scenario) (p : Params) :
    calculateSingleCS (ds.deleteExcluded sc) ((ds.deleteExcluded sc).connSetOf ds.allInclusive) p
      = calculateSingleCS ds (ds.connSetOf sc) p ∧
    calculateAllNodesCS (ds.deleteExcluded sc) ((ds.deleteExcluded sc).connSetOf ds.allInclusive) p
      = calculateAllNodesCS ds (ds.connSetOf sc) p ∧
    alternativesRoutingCS (ds.deleteExcluded sc) ((ds.deleteExcluded sc).connSetOf ds.allInclusive) p
      = alternativesRoutingCS ds (ds.connSetOf sc) p := by
  rw [C11_connSet h sc]
  refine ⟨?_, ?_, ?_⟩
  · simp only [calculateSingleCS, C11_restrict h sc]; rfl
  · simp only [calculateAllNodesCS, C11_restrict h sc]
  · simp only [alternativesRoutingCS, C11_restrict h sc]

/-- the wrapper the handlers use: `calculateSingle ds p` is the `…CS` function at the connection
    set of the scenario `p` names -/
theorem C11_route (ds : Dataset) (h : WFIds ds) (p : Params) :
    calculateSingle ds p =
      calculateSingleCS (ds.deleteExcluded (ds.scenarioOf p)) ((ds.deleteExcluded (ds.scenarioOf p)).connSetOf ds.allInclusive) p := by
  rw [(C11_answers h (ds.scenarioOf p) p).1]; rfl

/-! non-vacuity: a two-trip dataset whose scenario really excludes one trip -/
def exDs : Dataset :=
  { nStops := 2, nServices := 2, foot := [], lines := [⟨0, 0⟩, ⟨0, 1⟩],
    paths := [⟨0, [0, 1], [10]⟩, ⟨1, [0, 1], [10]⟩],
    trips := [⟨5, 0, 0, [100, 200], [100, 200], [true, true], [true, true]⟩,
              ⟨3, 1, 1, [150, 250], [150, 250], [true, true], [true, true]⟩],
    scenarios := [], access := [], egress := [] }
def exSc : Scenario := { services := [0, 1], onlyLines := [], exceptLines := [1], onlyAgencies := [], exceptAgencies := [], onlyModes := [], exceptModes := [] }
example : WFIds exDs := ⟨by decide, by decide⟩
example : ((exDs.deleteExcluded exSc).trips.map (·.id)) = [5] ∧ (exDs.connSetOf exSc).trips = [5] := by decide

example : WFSchedule exDs := by
  refine ⟨by decide, ?_⟩
  intro tr htr i j hij hj
  simp [exDs] at htr
  rcases htr with rfl | rfl
  · simp at hj
    have : i = 0 ∨ i = 1 := by omega
    have : j = 0 ∨ j = 1 := by omega
    rcases ‹i = 0 ∨ i = 1› with rfl | rfl <;> rcases ‹j = 0 ∨ j = 1› with rfl | rfl <;> simp_all
  · simp at hj
    have : i = 0 ∨ i = 1 := by omega
    have : j = 0 ∨ j = 1 := by omega
    rcases ‹i = 0 ∨ i = 1› with rfl | rfl <;> rcases ‹j = 0 ∨ j = 1› with rfl | rfl <;> simp_all

end Tr
