/-
  Property C03 — departure-time queries return the earliest possible arrival, if any exists.

  Over the model, on the domain: well-formed data, positive hop times, first-waiting cap disabled (negative),
  non-negative walks, the router lists each stop once, every stop has its zero self footpath, minimum waiting
  time and transfer maximum not negative, times fit the integer type of the tables (`TimesBounded`,
  `ArrBounded`), request in [0, 32 h); lines of the `transferable` mode allowed:

    * `C03_optimal` (1): when the answer is a route, it arrives no later than ANY admissible
      journey (`AdmFwd`: a boarding reachable from the place at the requested time - `Reach` -,
      permitted, on an admitted trip; a permitted alighting of that trip at a stop the router
      offers around the destination), given one whose arrival = alighting + egress walk lies within
      max_travel_time. The route itself is such a journey (`C03_attained`, `Props/Attained.lean`), so
      its arrival IS the minimum.
    * `C03_optimal` (2): when an admissible journey exists the answer is not no_routing_found.
      The second (reverse) pass as modelled is the one of `fix:` a7932ab (DESIGN 0.3): the break of the
      unrepaired code could stop it before the only acceptable first boarding.
    * `C03_optimal` (3), property C05: no admissible journey of the reverse kind that meets the reported
      arrival and leaves no earlier than requested leaves later than the route.
  That the model never ends in its `exception` outcome on this domain is `calculateSingle_no_exception` (`Props/NoExc`).

  Structure: forward single scan complete up to an upper cut line (`FCβ`), best egress selection,
  forward soundness gives a journey J* arriving at the chosen time, `reach_reverse` turns J* into an
  admissible journey of the second pass, all of whose trips are flagged usable, and
  `singleReverse_gen` shows the second pass finds a route; C02-style soundness bounds its arrival.
-/
import TrVerif.Proofs.Reversal
import TrVerif.Proofs.Achieve
import TrVerif.Props.C02
import TrVerif.Props.C04
import TrVerif.Props.C08Complete
namespace Tr

theorem Reach.usable {cx : Ctx} {L P : List Conn} {s : FState} {β : Int} (w : FW cx L) (hPL : ∀ a ∈ P, a ∈ L)
    (hF : FCβ cx β P s) {y : Nat} {t : Int} (h : Reach cx P y t) (ht : t ≤ β) :
    Reach cx (P.filter fun c => s.usable c.trip) y t := by
  induction h with
  | access a ha => exact Reach.access a ha
  | ride y' t' e x f hsub he hx h1 h2 h3 h4 h5 h6 h7 h8 h9 ih =>
    have := w.ride (hPL e he) (hPL x hx) h3 h4 h8
    have hen := hF.enter e he ⟨h5, h7, t', by rw [h1]; exact hsub, h2⟩ (by omega)
    have hue := hF.usable e.trip hen
    exact Reach.ride y' t' e x f (ih (by omega)) (List.mem_filter.mpr ⟨he, hue⟩)
      (List.mem_filter.mpr ⟨hx, by rw [← h3]; exact hue⟩) h1 h2 h3 h4 h5 h6 h7 h8 h9

theorem journeyOK_arrival {cx : Ctx} {C : List Conn} {bd : Int} {j : List JStep} (h : JourneyOK cx C bd j) (hnd : cx.EgrNodup) :
    (emit cx.ds cx.p.minWait bd j).arrivalTime ≤ cx.arrT :=
  h.arrival_le hnd

structure FwdDomain (ds : Dataset) (cs : ConnSet) (p : Params) (acc egr : List NTD) : Prop where
  wF : FW (mkCtx ds p cs acc egr p.time (-1)) cs.fwd
  wR : ∀ t', RW { mkCtx ds p cs acc egr p.time (-1) with arrT := t' } cs.rev
  sortedF : SortedFwd cs.fwd
  sortedR : SortedRev cs.rev
  idxF : cs.fwdIdx = fwdIndex cs.fwd
  idxR : cs.revIdx = revIndex cs.rev
  fr : ∀ c ∈ cs.fwd, c ∈ cs.rev
  rf : ∀ c ∈ cs.rev, c ∈ cs.fwd
  mwb : ∀ c ∈ cs.rev, c.effWait p.minWait ≤ p.minWait
  boundD : ∀ c ∈ cs.rev, c.dep < MAX_INT
  boundA : ∀ c ∈ cs.fwd, ∀ g ∈ egr, c.arr + g.time < MAX_INT
  t0 : 0 ≤ p.time
  t1 : p.time < (HOUR_END : Int) * 3600
  cap : p.maxFirstWait < 0
  clean : ∀ t', CleanupPreserves { mkCtx ds p cs acc egr p.time (-1) with arrT := t' } cs.rev

theorem forwardSingle_core {cx : Ctx} (wF : FW cx cx.cs.fwd) (wR : ∀ t', RW { cx with arrT := t' } cx.cs.rev)
    (sortedF : SortedFwd cx.cs.fwd) (sortedR : SortedRev cx.cs.rev) (idxF : cx.cs.fwdIdx = fwdIndex cx.cs.fwd)
    (idxR : cx.cs.revIdx = revIndex cx.cs.rev) (fr : ∀ c ∈ cx.cs.fwd, c ∈ cx.cs.rev) (rf : ∀ c ∈ cx.cs.rev, c ∈ cx.cs.fwd)
    (mwb : ∀ c ∈ cx.cs.rev, c.effWait cx.p.minWait ≤ cx.p.minWait) (boundD : ∀ c ∈ cx.cs.rev, c.dep < MAX_INT)
    (boundA : ∀ c ∈ cx.cs.fwd, ∀ g ∈ cx.egressFoot, c.arr + g.time < MAX_INT) (t0 : 0 ≤ cx.depT)
    (t1 : cx.depT < (HOUR_END : Int) * 3600) (cap : cx.p.maxFirstWait < 0)
    (clean : ∀ t', CleanupPreserves { cx with arrT := t' } cx.cs.rev)
    {start : Nat} (hl : lookupPos (fwdLookup cx.cs.fwd cx.cs.fwdIdx (hourOf cx.depT)) = some start)
    {e x : Conn} {g : NTD} (hJ : AdmFwd cx cx.cs.fwd e x g) (hT : x.arr + g.time - cx.depT ≤ cx.p.maxTotal) :
    (fwdScan cx true start).count ≠ 0 ∧ ∃ ba node, bestEgress cx (fwdScan cx true start) = some (ba, node) ∧
      (∀ r, singleReverse { cx with arrT := ba } (fwdScan cx true start).usable = .ok r → r.arrivalTime ≤ x.arr + g.time) ∧
      (∀ reason, singleReverse { cx with arrT := ba } (fwdScan cx true start).usable ≠ .noRouting reason) ∧
      (∀ r, singleReverse { cx with arrT := ba } (fwdScan cx true start).usable = .ok r → ∀ a0 e0 x0,
        AdmRev { cx with arrT := r.arrivalTime } cx.cs.rev a0 e0 x0 →
        cx.depT ≤ e0.dep - e0.effWait cx.p.minWait - a0.time →
        e0.dep - e0.effWait cx.p.minWait - a0.time ≤ r.departureTime) := by
  -- the invariants of the forward pass, relative to the cut line of its final state
  have hF := fwdScan_FCβ wF sortedF start
  have hS := fwdScan_FInv cx true start sortedF wF.depMono wF.mw (fun c hc => boundD c (fr c hc))
  obtain ⟨hβ1, _, hβc⟩ := cutLine_spec cx (fwdScan cx true start)
  generalize cutLine cx (fwdScan cx true start) = β at hF hβ1 hβc
  generalize fwdScan cx true start = fs at hF hS hβc ⊢
  have hsubd : ∀ a ∈ cx.cs.fwd.drop start, a ∈ cx.cs.fwd := fun _ ha => List.mem_of_mem_drop ha
  have hin : ∀ a ∈ cx.cs.fwd, cx.depT ≤ a.dep → a ∈ cx.cs.fwd.drop start :=
    fun a ha hd => mem_drop_start_fwd idxF t0 t1 hl ha hd
  have hegrNN : ∀ g' ∈ cx.egressFoot, 0 ≤ g'.time := (wR 0).egrNonneg
  have hegrND : (cx.egressFoot.map (·.stop)).Nodup := (wR 0).egrNodup
  -- a recorded alighting ends a ride boarded by a traveller who left at the requested time, inside the scanned range
  have hrec : ∀ y js x', fs.egr y = some js → js.exit = some x' → ∃ e', x'.arrStop = y ∧ e'.trip = x'.trip ∧
      e'.seq ≤ x'.seq ∧ x'.canUnboard = true ∧ e' ∈ cx.cs.fwd.drop start ∧ x' ∈ cx.cs.fwd.drop start ∧
      BoardP cx (cx.cs.fwd.drop start) e' ∧ cx.depT ≤ e'.dep ∧ e'.dep ≤ x'.dep ∧ x'.dep < x'.arr := by
    intro y js x' hj hx'
    obtain ⟨e', x'', _, h2, h3, h4, h5, h6, h7, he', hb'⟩ := hS.egr y js hj
    rw [hx'] at h2; cases h2
    obtain ⟨a, b, c, d⟩ := ride_scanned_fwd wF hsubd hin he' h4 hb' h5 h6
    exact ⟨e', h3, h5, h6, h7, a, b, c, d⟩
  have harrpos : ∀ y js x', fs.egr y = some js → js.exit = some x' → 0 ≤ x'.arr := fun y js x' hj hx' => by
    obtain ⟨_, _, _, _, _, _, _, _, h1, h2, h3⟩ := hrec y js x' hj hx'
    omega
  have hnn : ∀ g1 ∈ cx.egressFoot, ∀ b, EgrLe fs g1.stop b → 0 ≤ b + g1.time := fun g1 hg1 b ⟨js, x', hj, hx', hxb⟩ => by
    have := harrpos _ _ _ hj hx'
    have := hegrNN g1 hg1
    omega
  obtain ⟨heP, hxP, hbP, hde, hdmx, hphx⟩ := ride_scanned_fwd wF hsubd hin hJ.he hJ.hx hJ.board hJ.trip hJ.seq
  have hgt := hegrNN g hJ.egr
  -- once reached: a recorded alighting at an offered stop, at the arrival the mark keeps
  have hreach : fs.reached = true → ∃ g1 ∈ cx.egressFoot, EgrLe fs g1.stop fs.tentEgrArr ∧ g1.time ≤ cx.maxEgress ∧
      1 ≤ fs.count ∧ fs.tentEgrArr + g1.time < MAX_INT := by
    intro hr
    obtain ⟨c1, hc1, harr1, ⟨g1, hng1⟩, hegr1, hcnt1⟩ := hF.reach hr
    have hm1 := nodes_mem hng1
    exact ⟨g1, hm1.1, by rw [hm1.2, ← harr1]; exact hegr1, maxTime_ge cx.egressFoot g1 hm1.1, hcnt1,
      harr1 ▸ boundA c1 (hsubd c1 hc1) g1 hm1.1⟩
  -- a recorded alighting at an offered stop that is at least as good as the given journey, and a positive count
  have hkey : ∃ g1 ∈ cx.egressFoot, ∃ b, EgrLe fs g1.stop b ∧ b + g1.time ≤ x.arr + g.time ∧ 1 ≤ fs.count ∧
      b + g1.time < MAX_INT := by
    by_cases hcut : x.dep ≤ β
    · obtain ⟨hegr1, hcnt⟩ := hF.egr e heP x hxP hbP hJ.trip hJ.seq hJ.unboard hcut
      exact ⟨g, hJ.egr, x.arr, by rw [hJ.stop]; exact hegr1, Int.le_refl _, hcnt, boundA x hJ.hx g hJ.egr⟩
    · -- `x` leaves after the cut line, which therefore is the one of the egress break
      rcases hβc with hβc | ⟨hr, hβc⟩
      · omega
      · obtain ⟨g1, hg1, hegr1, hmax, hcnt1, hlt1⟩ := hreach hr
        exact ⟨g1, hg1, fs.tentEgrArr, hegr1, by omega, hcnt1, hlt1⟩
  obtain ⟨g1, hg1, b, hegr1, hb1, hcnt, hlt1⟩ := hkey
  obtain ⟨ba, node, hbest, hba⟩ := bestEgress_le hegrND hg1 hegr1 (hnn g1 hg1 b hegr1) (by omega) hlt1 harrpos hegrNN
  refine ⟨by omega, ba, node, hbest, ?_⟩
  -- the second pass arrives by the chosen time
  have harrive : ∀ r, singleReverse { cx with arrT := ba } fs.usable = .ok r → r.arrivalTime ≤ ba := by
    intro r hr'
    obtain ⟨bd, j, hrj, hJok, _⟩ := singleReverse_emits (cx := { cx with arrT := ba }) fs.usable sortedR (wR ba).arrMono
      wF.mw (clean ba) hr'
    rw [hrj]
    exact journeyOK_arrival hJok hegrND
  obtain ⟨gs, hgs, js, xs, egs, hjs, hxs, hngs, hbaeq, hbaT, hba0⟩ := bestEgress_sound hbest
  -- the chosen time is not beyond the cut line
  have hbaβ : ba ≤ β := by
    rcases hβc with hβc | ⟨hr, hβc⟩
    · omega
    · obtain ⟨g1', hg1', hegr1', hmax, _, hlt1'⟩ := hreach hr
      obtain ⟨ba', node', hbest', hba'⟩ := bestEgress_le hegrND hg1' hegr1' (hnn g1' hg1' _ hegr1') (by omega) hlt1' harrpos
        hegrNN
      rw [hbest] at hbest'
      simp only [Option.some.injEq, Prod.mk.injEq] at hbest'
      omega
  have hmem2 : ∀ a ∈ (cx.cs.fwd.drop start).filter (fun c => fs.usable c.trip), a ∈ cx.cs.rev.filter (fun c => fs.usable c.trip) := by
    intro a ha
    obtain ⟨ha1, ha2⟩ := List.mem_filter.mp ha
    exact List.mem_filter.mpr ⟨fr a (hsubd a ha1), ha2⟩
  have hgen : ∀ {a0 : NTD} {e0 x0 : Conn}, AdmRev { cx with arrT := ba } (cx.cs.rev.filter fun c => fs.usable c.trip) a0 e0 x0 →
      cx.depT ≤ e0.dep - e0.effWait cx.p.minWait - a0.time →
      (∀ r, singleReverse { cx with arrT := ba } fs.usable = .ok r → e0.dep - e0.effWait cx.p.minWait - a0.time ≤ r.departureTime) ∧
      (∀ reason, singleReverse { cx with arrT := ba } fs.usable ≠ .noRouting reason) := by
    intro a0 e0 x0 hAdm hdep0'
    have hna0 : cx.nodesAccess e0.depStop = some a0 := hAdm.stop ▸ nodes_find_nodup wF.accNodup hAdm.acc
    have hwe0 := effWait_nonneg e0 cx.p.minWait wF.mw
    have hok0 : AccOK { cx with arrT := ba } e0 :=
      Or.inr ⟨a0, hna0, by show cx.depT ≤ e0.dep - a0.time - e0.effWait cx.p.minWait; omega,
        Or.inl (by show cx.p.maxFirstWait < e0.effWait cx.p.minWait; omega)⟩
    have hd0 : 0 ≤ admDeparture { cx with arrT := ba } a0 e0 := by
      show 0 ≤ e0.dep - e0.effWait cx.p.minWait - a0.time
      omega
    have hspan : ({ cx with arrT := ba } : Ctx).arrT - admDeparture { cx with arrT := ba } a0 e0 ≤ cx.p.maxTotal := by
      show ba - (e0.dep - e0.effWait cx.p.minWait - a0.time) ≤ cx.p.maxTotal
      omega
    exact singleReverse_gen (cx := { cx with arrT := ba }) fs.usable (wR ba) sortedR idxR mwb wF.accNodup wF.accNonneg boundD
      hba0 hAdm hok0 (Or.inr ⟨cap, hdep0'⟩) hd0 hspan
  refine ⟨fun r hr' => by have := harrive r hr'; omega, ?_, ?_⟩
  · -- the second pass does not fail: the journey that realises the chosen time is found
    obtain ⟨es, h3, h5, h6, h7, hesP, hxsP, ⟨hescb, hesdis, ts, hrsP, hts⟩, _, hdms, hphs⟩ := hrec gs.stop js xs hjs hxs
    have hwes := effWait_nonneg es cx.p.minWait wF.mw
    have hmegs := nodes_mem hngs
    have hegst := hegrNN egs hmegs.1
    have husable := hrsP.usable wF hsubd hF (by omega)
    have hues := hF.usable es.trip (hF.enter es hesP ⟨hescb, hesdis, ts, hrsP, hts⟩ (by omega))
    have hes2 := hmem2 es (List.mem_filter.mpr ⟨hesP, hues⟩)
    have hxs2 := hmem2 xs (List.mem_filter.mpr ⟨hxsP, by rw [← h5]; exact hues⟩)
    have hunb : UnboardP { cx with arrT := ba } (cx.cs.rev.filter fun c => fs.usable c.trip) xs := by
      refine ⟨h7, by rw [← h5]; exact hesdis, ba - egs.time, ?_, by omega⟩
      have := RReach.egress (cx := { cx with arrT := ba }) (C := cx.cs.rev.filter fun c => fs.usable c.trip) egs hmegs.1
      rw [hmegs.2, ← h3] at this
      exact this
    obtain ⟨a0, e0, x0, hAdm, hdep0⟩ := reach_reverse ((husable.mono_set hmem2).arrT ba) es xs hes2 hxs2 rfl hts h5 h6 hescb hunb
    exact (hgen hAdm hdep0).2
  · -- no admissible journey that meets the reported arrival leaves later
    intro r hr' a0 e0 x0 hAdm hdepJ
    have harr := harrive r hr'
    obtain ⟨hcu0, hdis0, t0', hr0, hrt0⟩ := hAdm.unboard
    obtain ⟨t0'', ht0', hr0''⟩ := hr0.arrT_mono (A' := ba) harr
    have hle0 := hr0''.time_le (wR ba) (fun a ha => ha)
    have hb0' : BoardP cx cx.cs.fwd e0 :=
      ⟨hAdm.board, hdis0 ▸ (by rw [hAdm.trip]), cx.depT + a0.time, by rw [← hAdm.stop]; exact Reach.access a0 hAdm.acc,
        by omega⟩
    obtain ⟨he0P, hx0P, hboard0, _, hdm0, hph0⟩ :=
      ride_scanned_fwd wF hsubd hin (rf e0 hAdm.he) (rf x0 hAdm.hx) hb0' hAdm.trip hAdm.seq
    have hu0 := hF.usable e0.trip (hF.enter e0 he0P hboard0 (by
      have : ({ cx with arrT := ba } : Ctx).arrT = ba := rfl
      omega))
    have hcont := rreach_usable (cx := cx) (cx' := { cx with arrT := ba }) (L := cx.cs.fwd) (P := cx.cs.fwd.drop start)
      (Lr := cx.cs.rev) wF (wR ba) hsubd rf hF hin hbaβ ⟨rfl, rfl, rfl⟩ hr0'' e0 x0 he0P hx0P hboard0 hAdm.trip hAdm.seq hcu0
      rfl (by omega)
    have hAdm2 : AdmRev { cx with arrT := ba } (cx.cs.rev.filter fun c => fs.usable c.trip) a0 e0 x0 :=
      ⟨hAdm.acc, hAdm.stop, List.mem_filter.mpr ⟨hAdm.he, hu0⟩,
        List.mem_filter.mpr ⟨hAdm.hx, by rw [← hAdm.trip]; exact hu0⟩, hAdm.trip, hAdm.seq, hAdm.board,
        ⟨hcu0, hdis0, t0'', hcont, by omega⟩⟩
    exact (hgen hAdm2 hdepJ).1 r hr'

theorem forwardSingle_optimal {ds : Dataset} {cs : ConnSet} {p : Params} {acc egr : List NTD} (hp : p.forward = true)
    (D : FwdDomain ds cs p acc egr) (hane : acc ≠ []) (hene : egr ≠ [])
    {e x : Conn} {g : NTD} (hJ : AdmFwd (mkCtx ds p cs acc egr p.time (-1)) cs.fwd e x g)
    (hT : x.arr + g.time - p.time ≤ p.maxTotal) :
    (∀ r, calculateSingleWith ds cs p acc egr = .ok r → r.arrivalTime ≤ x.arr + g.time) ∧
    (∀ reason, calculateSingleWith ds cs p acc egr ≠ .noRouting reason) ∧
    (∀ r, calculateSingleWith ds cs p acc egr = .ok r → ∀ a0 e0 x0,
      AdmRev { mkCtx ds p cs acc egr p.time (-1) with arrT := r.arrivalTime } cs.rev a0 e0 x0 →
      p.time ≤ e0.dep - e0.effWait p.minWait - a0.time → e0.dep - e0.effWait p.minWait - a0.time ≤ r.departureTime) := by
  have ha' : acc.isEmpty = false := by cases acc with | nil => exact absurd rfl hane | cons _ _ => rfl
  have he' : egr.isEmpty = false := by cases egr with | nil => exact absurd rfl hene | cons _ _ => rfl
  unfold calculateSingleWith
  simp only [ha', he', Bool.false_eq_true, and_false, if_false, hp, if_true]
  cases hl : lookupPos (fwdLookup (mkCtx ds p cs acc egr p.time (-1)).cs.fwd (mkCtx ds p cs acc egr p.time (-1)).cs.fwdIdx
      (hourOf p.time)) with
  | none => simp
  | some start =>
    obtain ⟨hcnt, ba, node, hbest, h1, h2, h3⟩ := forwardSingle_core (cx := mkCtx ds p cs acc egr p.time (-1)) D.wF D.wR
      D.sortedF D.sortedR D.idxF D.idxR D.fr D.rf D.mwb D.boundD D.boundA D.t0 D.t1 D.cap D.clean hl hJ hT
    simp only
    rw [if_neg hcnt, hbest]
    exact ⟨h1, h2, h3⟩

/-- arrival plus egress walk fits the integer type of the tables -/
def ArrBounded (ds : Dataset) : Prop := ∀ c ∈ ds.conns, ∀ g ∈ ds.egress, c.arr + g.time < MAX_INT

theorem FwdDomain_dataset {ds : Dataset} (hwf : WFData ds) (p : Params) (hmw : 0 ≤ p.minWait) (hmt : 0 ≤ p.maxTransfer)
    (hpos : PosHops ds) (hself : SelfFootArr ds) (hb : TimesBounded ds) (hba : ArrBounded ds) (hcap : p.maxFirstWait < 0)
    (hacc : ∀ a ∈ ds.access, 0 ≤ a.time) (hand : (ds.access.map (·.stop)).Nodup)
    (hegr : ∀ g ∈ ds.egress, 0 ≤ g.time) (hend : (ds.egress.map (·.stop)).Nodup)
    (h0 : 0 ≤ p.time) (ht : p.time < (HOUR_END : Int) * 3600) :
    FwdDomain (ds.restrict (ds.connSetOf (ds.scenarioOf p))) (ds.connSetOf (ds.scenarioOf p)) p
      (routerLookup ds.access p.maxAccess) (routerLookup ds.egress p.maxEgress) := by
  have hsub := connSetOf_rev_sub ds (ds.scenarioOf p)
  have hfr := connSetOf_fwd_mem_rev ds (ds.scenarioOf p)
  refine ⟨?_, ?_, connSetOf_sortedFwd ds _, connSetOf_sorted ds _, rfl, rfl, hfr, connSetOf_rev_mem_fwd ds _, ?_, fun c hc => hb c (hsub c hc), ?_, h0, ht, hcap, ?_⟩
  · exact FW_dataset' hwf p hmw hmt hpos hself (by omega) hacc hand _ _ _
  · exact fun t' => RW_dataset' hwf p hmw hmt hpos hegr hend _ _ _
  · exact fun c hc => effWait_le_minWait (hsub c hc) hmw
  · intro c hc g hg
    exact hba c (hsub c (hfr c hc)) g (List.mem_filter.mp hg).1
  · intro t'
    exact cleanupPreserves (timeWF_dataset hwf p hmw hmt _ _ _ p.time t') (sliceOK_dataset hwf p _ _ _ p.time t')

/-- **C03**, and C05 as the third conjunct: the three claims of the file header. -/
theorem C03_optimal (ds : Dataset) (hwf : WFData ds) (p : Params) (hp : p.forward = true) (hmw : 0 ≤ p.minWait)
    (hmt : 0 ≤ p.maxTransfer) (hpos : PosHops ds) (hself : SelfFootArr ds) (hb : TimesBounded ds) (hba : ArrBounded ds)
    (hcap : p.maxFirstWait < 0)
    (hacc : ∀ a ∈ ds.access, 0 ≤ a.time) (hand : (ds.access.map (·.stop)).Nodup)
    (hegr : ∀ g ∈ ds.egress, 0 ≤ g.time) (hend : (ds.egress.map (·.stop)).Nodup)
    (h0 : 0 ≤ p.time) (ht : p.time < (HOUR_END : Int) * 3600)
    {e x : Conn} {g : NTD}
    (hJ : AdmFwd (mkCtx (ds.restrict (ds.connSetOf (ds.scenarioOf p))) p (ds.connSetOf (ds.scenarioOf p))
        (routerLookup ds.access p.maxAccess) (routerLookup ds.egress p.maxEgress) p.time (-1))
        (ds.connSetOf (ds.scenarioOf p)).fwd e x g)
    (hT : x.arr + g.time - p.time ≤ p.maxTotal) :
    (∀ r, calculateSingle ds p = .ok r → r.arrivalTime ≤ x.arr + g.time) ∧
    (∀ reason, calculateSingle ds p ≠ .noRouting reason) ∧
    (∀ r, calculateSingle ds p = .ok r → ∀ a0 e0 x0,
      AdmRev { mkCtx (ds.restrict (ds.connSetOf (ds.scenarioOf p))) p (ds.connSetOf (ds.scenarioOf p))
          (routerLookup ds.access p.maxAccess) (routerLookup ds.egress p.maxEgress) p.time (-1) with arrT := r.arrivalTime }
        (ds.connSetOf (ds.scenarioOf p)).rev a0 e0 x0 →
      p.time ≤ e0.dep - e0.effWait p.minWait - a0.time → e0.dep - e0.effWait p.minWait - a0.time ≤ r.departureTime) := by
  have D := FwdDomain_dataset hwf p hmw hmt hpos hself hb hba hcap hacc hand hegr hend h0 ht
  obtain ⟨_, _, _, hr, _⟩ := hJ.board
  exact forwardSingle_optimal hp D hr.access_ne_nil (List.ne_nil_of_mem hJ.egr) hJ hT

end Tr
