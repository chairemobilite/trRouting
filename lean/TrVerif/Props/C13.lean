/-
  Property C13 — an answer depends only on the data and the request, not on earlier requests.

  State shared between requests = the scenario connection-set cache (each handler invocation
  constructs its own `Calculator`, `C13_structure`).  Invariant: `Coherent`.
-/
import TrVerif.Model.Server
import TrVerif.Proofs.Fold
namespace Tr

/-- every cached connection set is the one `getConnectionsForScenario` would compute -/
def Coherent (ds : Dataset) (s : Server) : Prop :=
  ∀ sc cs, s.get sc = some cs → cs = ds.connSetOf (ds.scenarios.getD sc default)

theorem coherent_init (ds : Dataset) (b : Bool) : Coherent ds (Server.init b) := by
  intro sc cs h; simp [Server.init, Server.get] at h

theorem Server.get_set (s : Server) (sc sc' : Nat) (cs : ConnSet) :
    (s.set sc cs).get sc' = if sc' = sc then some cs else if s.cacheAll then s.get sc' else none := by
  unfold Server.set Server.get
  by_cases h : sc' = sc
  · subst h; cases s.cacheAll <;> simp
  · have h' : ¬ sc = sc' := fun e => h e.symm
    cases hA : s.cacheAll
    · simp [h, h']
    · simp only [if_true, if_neg h, List.find?_cons, h', decide_false]
      -- the entries filtered out are those of `sc`, which a search for `sc'` passes over
      rw [List.find?_filter]
      congr 2
      funext a
      by_cases h2 : a.1 = sc' <;> simp [h2, h]

theorem coherent_set {ds : Dataset} {s : Server} (h : Coherent ds s) (sc : Nat) :
    Coherent ds (s.set sc (ds.connSetOf (ds.scenarios.getD sc default))) := by
  intro sc' cs hg
  rw [Server.get_set] at hg
  split at hg
  · subst sc'; exact (Option.some.inj hg).symm
  · split at hg
    · exact h sc' cs hg
    · cases hg

theorem obtain_coherent {ds : Dataset} {s : Server} (h : Coherent ds s) (sc : Nat) :
    (obtain ds s sc).1 = ds.connSetOf (ds.scenarios.getD sc default) ∧ Coherent ds (obtain ds s sc).2 := by
  unfold obtain
  cases hg : s.get sc with
  | none => exact ⟨rfl, coherent_set h sc⟩
  | some cs => exact ⟨h sc cs hg, h⟩

/-- the handler's response with the scenario's connection set in place of whatever the cache returns -/
def dataAnswer (ds : Dataset) (r : Request) : String :=
  match parseParams ds r.kvs with
  | .error e => s!"{r.kind} query_error {paramErrorType e}"
  | .ok p => if reachesFilters ds r.kind p
      then respond ds (ds.connSetOf (ds.scenarios.getD p.scenario default)) r.kind p
      else respond ds (mkConnSet [] [] []) r.kind p

theorem handle_coherent {ds : Dataset} {s : Server} (h : Coherent ds s) (r : Request) :
    Coherent ds (handle ds s r).1 ∧ (handle ds s r).2 = dataAnswer ds r := by
  unfold handle dataAnswer
  cases parseParams ds r.kvs with
  | error e => exact ⟨h, rfl⟩
  | ok p =>
    obtain ⟨hc, hs⟩ := obtain_coherent h p.scenario
    by_cases hr : reachesFilters ds r.kind p
    · simp only [hr, if_true]; exact ⟨hs, congrArg (respond ds · r.kind p) hc⟩
    · simp only [hr]; exact ⟨h, rfl⟩

theorem run_coherent {ds : Dataset} (hist : List Request) {s : Server} (h : Coherent ds s) : Coherent ds (run ds s hist) :=
  foldl_inv (Coherent ds) (fun _ r _ h => (handle_coherent h r).1) h

/-- **C13.** For every dataset, both settings of `cacheAllConnectionSets`, every finite sequence
    `hist` of route / alternatives / summary / accessibility requests (valid, failing or invalid)
    and every request `req`: the response to `req` after serving `hist` equals the response of a
    fresh server - whether the per-scenario set was cached or is built for this request. -/
theorem C13_history_independent (ds : Dataset) (cacheAll : Bool) (hist : List Request) (req : Request) :
    (handle ds (run ds (Server.init cacheAll) hist) req).2 = (handle ds (Server.init cacheAll) req).2 := by
  rw [(handle_coherent (run_coherent hist (coherent_init ds cacheAll)) req).2, (handle_coherent (coherent_init ds cacheAll) req).2]

theorem C13_cache_kind_irrelevant (ds : Dataset) (hist1 hist2 : List Request) (req : Request) :
    (handle ds (run ds (Server.init true) hist1) req).2 = (handle ds (run ds (Server.init false) hist2) req).2 := by
  rw [(handle_coherent (run_coherent hist1 (coherent_init ds true)) req).2, (handle_coherent (run_coherent hist2 (coherent_init ds false)) req).2]

/-- structural facts the model rests on, read off the current source by the translator: one
    `Calculator` per handler invocation, the cache reached only through `get`/`set`, no static
    state in the calculator, no data member in the geography filters the requests share (the model's
    walking router is a function of the dataset only) -/
theorem C13_structure :
    (["handler_route_own_calculator", "handler_summary_own_calculator", "handler_accessibility_own_calculator",
      "cache_touched_only_via_get_set", "no_static_state_in_calculator", "geofilters_are_stateless"].all
        fun k => Gen.facts.lookup k == some true) = true := by decide +kernel

example : ((Server.init false).set 1 (mkConnSet [] [] [])).get 1 = some (mkConnSet [] [] []) := by
  simp [Server.get_set]

end Tr
