/-
  Property C14 (partial) — concurrent requests are answered exactly as if each were served alone.

  Proved for every schedule of the atomic actions of the worker threads (`C14_interleavings`).
  Not exhibited by the model (hence *partial*): atomicity of a critical section and the C++
  memory model are assumed; that the locks and the shared ownership are there is re-read from the
  source on every run (`C14_structure`); races elsewhere are only observed (TSan soak).
-/
import TrVerif.Model.Concurrent
import TrVerif.Props.C13
namespace Tr

def Parsed (ds : Dataset) (r : Request) (p : Params) : Prop :=
  parseParams ds r.kvs = .ok p ∧ reachesFilters ds r.kind p = true

/-- what is true of one thread at every moment -/
def ThreadOK (ds : Dataset) (t : Thread) : Prop :=
  match t.pc with
  | .start => True
  | .ready p | .missed p => Parsed ds t.req p
  | .computed p cs | .holding p cs => Parsed ds t.req p ∧ cs = ds.connSetOf (ds.scenarios.getD p.scenario default)
  | .done r => r = dataAnswer ds t.req

def WorldOK (ds : Dataset) (w : World) : Prop := Coherent ds w.srv ∧ ∀ t ∈ w.threads, ThreadOK ds t

theorem threadStep_ok {ds : Dataset} {srv : Server} {t : Thread} (hs : Coherent ds srv) (ht : ThreadOK ds t) :
    Coherent ds (threadStep ds srv t).1 ∧ ThreadOK ds (threadStep ds srv t).2 := by
  unfold threadStep
  cases hpc : t.pc with
  | start =>
    simp only
    cases hp : parseParams ds t.req.kvs with
    | error e => exact ⟨hs, by simp [ThreadOK, dataAnswer, hp]⟩
    | ok p =>
      by_cases hr : reachesFilters ds t.req.kind p
      · simp only [hr, if_true]; exact ⟨hs, hp, hr⟩
      · simp only [hr]; exact ⟨hs, by simp [ThreadOK, dataAnswer, hp, hr]⟩
  | ready p =>
    simp only [ThreadOK, hpc] at ht
    simp only
    cases hg : srv.get p.scenario with
    | none => exact ⟨hs, ht⟩
    | some cs => exact ⟨hs, ht, hs _ _ hg⟩
  | missed p =>
    simp only [ThreadOK, hpc] at ht
    exact ⟨hs, ht, rfl⟩
  | computed p cs =>
    simp only [ThreadOK, hpc] at ht
    exact ⟨ht.2 ▸ coherent_set hs _, ht⟩
  | holding p cs =>
    simp only [ThreadOK, hpc] at ht
    exact ⟨hs, by simp [ThreadOK, dataAnswer, ht.1.1, ht.1.2, ht.2]⟩
  | done r =>
    simp only [ThreadOK, hpc] at ht
    exact ⟨hs, ht⟩

theorem worldStep_ok {ds : Dataset} {w : World} (h : WorldOK ds w) (i : Nat) : WorldOK ds (worldStep ds w i) := by
  unfold worldStep
  cases hi : w.threads[i]? with
  | none => exact h
  | some t =>
    obtain ⟨h1, h2⟩ := threadStep_ok h.1 (h.2 t (List.mem_of_getElem? hi))
    refine ⟨h1, fun t' ht' => ?_⟩
    rcases List.mem_or_eq_of_mem_set ht' with hm | rfl
    · exact h.2 t' hm
    · exact h2

theorem World.init_ok (ds : Dataset) (cacheAll : Bool) (reqs : List Request) : WorldOK ds (World.init cacheAll reqs) := by
  refine ⟨coherent_init ds cacheAll, fun t ht => ?_⟩
  obtain ⟨r, _, rfl⟩ := List.mem_map.1 ht
  trivial

/-- **C14.** Any number of concurrent requests `reqs`, any schedule `sched` of their atomic
    actions (including schedules in which the cache misses, is filled and is replaced while other
    threads still hold an older entry), either cache setting: every thread that has finished
    holds exactly the response an idle server gives to its request, every thread that holds a
    connection set holds the one of its scenario, and the shared cache is coherent afterwards. -/
theorem C14_interleavings (ds : Dataset) (cacheAll : Bool) (reqs : List Request) (sched : List Nat) :
    let w := runSchedule ds (World.init cacheAll reqs) sched
    Coherent ds w.srv ∧
    ∀ t ∈ w.threads,
      (∀ r, t.pc = .done r → r = (handle ds (Server.init cacheAll) t.req).2) ∧
      (∀ p cs, t.pc = .holding p cs → cs = ds.connSetOf (ds.scenarios.getD p.scenario default)) := by
  intro w
  have h : WorldOK ds w := foldl_inv (WorldOK ds) (fun _ i _ h => worldStep_ok h i) (World.init_ok ds cacheAll reqs)
  refine ⟨h.1, fun t ht => ⟨fun r hr => ?_, fun p cs hc => ?_⟩⟩ <;> have ht' := h.2 t ht
  · simp only [ThreadOK, hr] at ht'
    rw [ht', (handle_coherent (coherent_init ds cacheAll) t.req).2]
  · simp only [ThreadOK, hc] at ht'
    exact ht'.2

def Pc.rank : Pc → Nat
  | .start => 0 | .ready _ => 1 | .missed _ => 2 | .computed _ _ => 3 | .holding _ _ => 4 | .done _ => 5

/-- no action blocks, whatever the server state the other threads left (the bound "done after 5 own actions"
    follows, it is not stated) -/
theorem C14_progress (ds : Dataset) (srv : Server) (t : Thread) :
    t.pc.rank < 5 → t.pc.rank < (threadStep ds srv t).2.pc.rank := by
  intro h
  unfold threadStep
  cases h0 : t.pc with
  | start =>
    simp only
    cases parseParams ds t.req.kvs with
    | error e => simp [Pc.rank]
    | ok p => by_cases hr : reachesFilters ds t.req.kind p <;> simp [hr, Pc.rank]
  | ready p =>
    simp only
    cases srv.get p.scenario <;> simp [Pc.rank]
  | missed p => simp [Pc.rank]
  | computed p cs => simp [Pc.rank]
  | holding p cs => simp [Pc.rank]
  | done r => rw [h0] at h; simp [Pc.rank] at h

/-- the locks and the shared ownership the model assumes are in the source (re-read every run) -/
theorem C14_structure :
    (["ScenarioConnectionCacheOne_get_shared_lock", "ScenarioConnectionCacheOne_set_unique_lock",
      "ScenarioConnectionCacheAll_get_shared_lock", "ScenarioConnectionCacheAll_set_unique_lock",
      "cache_holds_shared_ptr", "calculator_holds_shared_ptr", "cache_touched_only_via_get_set",
      "handler_route_own_calculator", "handler_summary_own_calculator", "handler_accessibility_own_calculator"].all
        fun k => Gen.facts.lookup k == some true) = true := by decide +kernel

end Tr
