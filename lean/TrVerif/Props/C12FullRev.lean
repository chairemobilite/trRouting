/-
  Props/C12FullRev — translation invariance of the calculation itself, reverse side: the reverse
  scan states of the shifted problem are the shifted states of the original problem (sentinel of the
  reverse tables: -1 = unreached), for either variant of the scan and any set of usable trips
  (`revScan_shift`); with reconstruction and clean-up (`Props/C12FullRecon.lean`) this gives
  `C12_full_accessibility_arrival`: arrival-time accessibility in full.
-/
import TrVerif.Props.C12FullRecon
namespace Tr

def shL (k : Int) (t : Int) : Int := if t = -1 then -1 else t + k

def shR (k : Int) (s : RState) : RState :=
  { lab := fun n => shL k (s.lab n), steps := fun n => shJ k (s.steps n), exitC := fun t => (s.exitC t).map (shiftConn k),
    exitW := s.exitW, acc := fun n => (s.acc n).map (shJ k), count := s.count, reached := s.reached,
    tentAccDep := shL k s.tentAccDep, stop := s.stop }

def LabGe (L : Int) (s : RState) : Prop := ∀ n, s.lab n = -1 ∨ L ≤ s.lab n

/-- everything the reverse pass reads from the context, related across the shift; the requested departure time is read
    only by the first-waiting cap of a departure-time query's second pass -/
structure CtxShR (k : Int) (cx cx' : Ctx) : Prop where
  same : CtxSame cx cx'
  maxTotal : cx'.p.maxTotal = cx.p.maxTotal
  maxFirstWait : cx'.p.maxFirstWait = cx.p.maxFirstWait
  arrT : cx'.arrT = cx.arrT + k
  depT : (cx.depT = -1 ∧ cx'.depT = -1) ∨ (cx.depT ≠ -1 ∧ cx'.depT ≠ -1 ∧ cx'.depT = cx.depT + k)
  transferable : ∀ t, cx'.ds.transferable t = cx.ds.transferable t
  nStops : cx'.ds.nStops = cx.ds.nStops

theorem shL_fin (k t L : Int) (h : L ≤ t) (hL : 0 ≤ L) : shL k t = t + k := by
  unfold shL; rw [if_neg (by omega)]

/-! comparing a label with a candidate `a` that is ≥ `L` on both sides commutes with the shift: the sentinel -1 stays below both -/
section
variable {k L t a : Int} (hL : 0 ≤ L) (hLk : 0 ≤ L + k) (ha : L ≤ a)
include hL hLk ha
theorem gt_shL : a + k > shL k t ↔ a > t := by unfold shL; split <;> omega
theorem shL_gt : shL k t > a + k ↔ t > a := by unfold shL; split <;> omega
theorem shL_ge : shL k t ≥ a + k ↔ t ≥ a := by unfold shL; split <;> omega
theorem le_shL : a + k ≤ shL k t ↔ a ≤ t := by unfold shL; split <;> omega
end

theorem shR_lab (k : Int) (s : RState) (n : Nat) : (shR k s).lab n = shL k (s.lab n) := rfl
theorem shR_acc (k : Int) (s : RState) (n : Nat) : (shR k s).acc n = (s.acc n).map (shJ k) := rfl
theorem shR_steps (k : Int) (s : RState) (n : Nat) : (shR k s).steps n = shJ k (s.steps n) := rfl
theorem shR_exitC_isSome (k : Int) (s : RState) (t : Nat) : ((shR k s).exitC t).isSome = (s.exitC t).isSome := Option.isSome_map
theorem shR_exitC_isNone (k : Int) (s : RState) (t : Nat) : ((shR k s).exitC t).isNone = (s.exitC t).isNone := Option.isNone_map

theorem revFootLabel_shift {k L : Int} (hL : 0 ≤ L) (hLk : 0 ≤ L + k) (c : Conn) (mw : Int) (s : RState) (f : NTD)
    (hs : LabGe L s) (hcand : L ≤ c.dep - f.time - mw) :
    revFootLabel (shiftConn k c) mw (shR k s) f = shR k (revFootLabel c mw s f) ∧ LabGe L (revFootLabel c mw s f) := by
  have E : (shiftConn k c).dep - f.time - mw > (shR k s).lab f.stop ↔ c.dep - f.time - mw > s.lab f.stop := by
    rw [show (shiftConn k c).dep - f.time - mw = (c.dep - f.time - mw) + k by rw [shiftConn_dep]; omega]
    exact gt_shL hL hLk hcand
  have ea : (shiftConn k c).dep - f.time - mw = shL k (c.dep - f.time - mw) := by
    rw [shL_fin k _ L hcand hL, shiftConn_dep]; omega
  have eb : ({ enter := some (shiftConn k c), exit := (shR k s).exitC (shiftConn k c).trip, walk := f.time, dist := f.dist } : JStep) =
      shJ k { enter := some c, exit := s.exitC c.trip, walk := f.time, dist := f.dist } := rfl
  unfold revFootLabel
  simp only [E]
  by_cases g : c.dep - f.time - mw > s.lab f.stop
  · simp only [if_pos g, ea, eb]
    refine ⟨?_, ?_⟩
    · simp only [shR, upd_map (shL k), upd_map (shJ k)]
    · intro n; simp only [upd]; split
      · exact Or.inr hcand
      · exact hs n
  · simp only [if_neg g]; exact ⟨trivial, hs⟩

theorem accAll_shift (k : Int) (o : Option JStep) (mwd a : Int) :
    ((o.map (shJ k)).all fun x => x.enter.any fun e => decide (e.dep - e.effWait mwd ≤ a + k)) =
      (o.all fun x => x.enter.any fun e => decide (e.dep - e.effWait mwd ≤ a)) := by
  cases o with
  | none => rfl
  | some x =>
    simp only [Option.map_some, Option.all_some, shJ]
    cases x.enter with
    | none => rfl
    | some e =>
      simp only [Option.map_some, Option.any_some]
      exact decide_eq_decide.2 (by rw [effWait_shift, shiftConn_dep]; omega)

theorem revFootAcc_shift {k : Int} {cx cx' : Ctx} (h : CtxShR k cx cx') (c : Conn) (mw : Int) (s : RState) (f : NTD) :
    revFootAcc cx' (shiftConn k c) mw (shR k s) f = shR k (revFootAcc cx c mw s f) := by
  have EA : revAccAccept cx' (shiftConn k c) mw (shR k s) f = revAccAccept cx c mw s f := by
    unfold revAccAccept
    have e2 : (shiftConn k c).dep - mw = (c.dep - mw) + k := by rw [shiftConn_dep]; omega
    rw [shR_acc, ← h.same.mw, shiftConn_depStop, e2, accAll_shift, nodesAccess_same h.same, h.maxFirstWait]
    rcases h.depT with ⟨d1, d2⟩ | ⟨d1, d2, d3⟩
    · rw [d1, d2]; simp
    · have n1 : decide (cx.depT = -1) = false := by simp [d1]
      have n2 : decide (cx'.depT = -1) = false := by simp [d2]
      rw [n1, n2, d3]
      have a1 : ∀ a : NTD, decide ((shiftConn k c).dep - a.time - mw ≥ cx.depT + k) = decide (c.dep - a.time - mw ≥ cx.depT) :=
        fun a => decide_eq_decide.2 (by rw [shiftConn_dep]; omega)
      have a2 : ∀ a : NTD, decide ((shiftConn k c).dep - (cx.depT + k) - a.time ≤ cx.p.maxFirstWait) = decide (c.dep - cx.depT - a.time ≤ cx.p.maxFirstWait) :=
        fun a => decide_eq_decide.2 (by rw [shiftConn_dep]; omega)
      simp only [a1, a2]
  unfold revFootAcc
  rw [EA]
  split
  · simp only [shR, upd_map (Option.map (shJ k)), Option.map_some, shJ]; rfl
  · rfl

theorem revFoot_shift {k L : Int} {cx cx' : Ctx} (h : CtxShR k cx cx') (hL : 0 ≤ L) (hLk : 0 ≤ L + k) (c : Conn) (mw : Int) (s : RState) (f : NTD)
    (hs : LabGe L s) (hcand : L ≤ c.dep - f.time - mw) (hdep : L ≤ c.dep - mw) :
    revFoot cx' (shiftConn k c) mw (shR k s) f = shR k (revFoot cx c mw s f) ∧ LabGe L (revFoot cx c mw s f) := by
  have E : (shR k s).lab f.stop > (shiftConn k c).dep - mw ↔ s.lab f.stop > c.dep - mw := by
    rw [show (shiftConn k c).dep - mw = (c.dep - mw) + k by rw [shiftConn_dep]; omega]
    exact shL_gt hL hLk hdep
  obtain ⟨a1, a2⟩ := revFootLabel_shift hL hLk c mw s f hs hcand
  unfold revFoot
  simp only [E, shiftConn_depStop, ← h.same.mt]
  by_cases g1 : f.stop ≠ c.depStop ∧ s.lab f.stop > c.dep - mw
  · simp only [if_pos g1]; exact ⟨trivial, hs⟩
  · simp only [if_neg g1]
    by_cases g2 : f.time ≤ cx.p.maxTransfer
    · simp only [if_pos g2]
      rw [a1, revFootAcc_shift h]
      refine ⟨rfl, ?_⟩
      intro n; rw [revFootAcc_lab]; exact a2 n
    · simp only [if_neg g2]; exact ⟨trivial, hs⟩

theorem revFootFold_shift {k L W : Int} {cx cx' : Ctx} (h : CtxShR k cx cx') (hL : 0 ≤ L) (hLk : 0 ≤ L + k) (c : Conn) (mw : Int)
    (hdep : L ≤ c.dep - W - mw) (hW : 0 ≤ W) (l : List NTD) (s : RState) (hl : ∀ f ∈ l, f.time ≤ W) (hs : LabGe L s) :
    l.foldl (revFoot cx' (shiftConn k c) mw) (shR k s) = shR k (l.foldl (revFoot cx c mw) s) ∧ LabGe L (l.foldl (revFoot cx c mw) s) := by
  have := foldl_sim (shR k) id (LabGe L) (fun f : NTD => f.time ≤ W)
    (fun s f hs hf => revFoot_shift h hL hLk c mw s f hs (by omega) (by omega)) l s hl hs
  rwa [List.map_id] at this

theorem zero_le_enterWait (mw : Int) (hmw : 0 ≤ mw) (j : JStep) : 0 ≤ enterWait mw j := by
  unfold enterWait
  cases j.enter with
  | none => exact Int.le_refl 0
  | some e => exact effWait_nonneg e mw hmw

theorem enterWait_shift (k mw : Int) (j : JStep) : enterWait mw (shJ k j) = enterWait mw j := by
  unfold enterWait shJ
  cases j.enter <;> rfl

theorem closerExit_shift {k L : Int} {cx cx' : Ctx} (h : CtxShR k cx cx') (hL : 0 ≤ L) (hLk : 0 ≤ L + k) (s : RState) (c : Conn)
    (hca : L ≤ c.arr) (hmw : 0 ≤ cx.p.minWait) :
    closerExit cx' (shR k s) (shiftConn k c) = closerExit cx s c := by
  have e3 : ((shJ k (s.steps c.arrStop)).enter).isSome = (s.steps c.arrStop).enter.isSome := Option.isSome_map
  have e4 : (shJ k (s.steps c.arrStop)).walk = (s.steps c.arrStop).walk := rfl
  have e5 : (shR k s).exitW c.trip = s.exitW c.trip := rfl
  have e6 : c.arr + k + enterWait cx.p.minWait (s.steps c.arrStop) ≤ shL k (s.lab c.arrStop) ↔
      c.arr + enterWait cx.p.minWait (s.steps c.arrStop) ≤ s.lab c.arrStop := by
    rw [show c.arr + k + enterWait cx.p.minWait (s.steps c.arrStop) = (c.arr + enterWait cx.p.minWait (s.steps c.arrStop)) + k by omega]
    exact le_shL hL hLk (by have := zero_le_enterWait cx.p.minWait hmw (s.steps c.arrStop); omega)
  unfold closerExit
  simp only [shiftConn_arrStop, shiftConn_trip, shiftConn_arr, shR_steps, shR_lab, ← h.same.mw, enterWait_shift, e3, e4, e5, e6]

theorem revUnboard_shift {k L : Int} {cx cx' : Ctx} (h : CtxShR k cx cx') (hL : 0 ≤ L) (hLk : 0 ≤ L + k) (s : RState) (c : Conn)
    (hca : L ≤ c.arr) (hmw : 0 ≤ cx.p.minWait) :
    revUnboard cx' (shR k s) (shiftConn k c) = shR k (revUnboard cx s c) := by
  unfold revUnboard
  rw [closerExit_shift h hL hLk s c hca hmw, shiftConn_canUnboard, shiftConn_trip, shR_exitC_isNone]
  split
  · simp only [shR, shiftConn_arrStop, upd_map (Option.map (shiftConn k)), Option.map_some, shJ]
  · rfl

theorem revUnboard_frame (cx : Ctx) (s : RState) (c : Conn) :
    (revUnboard cx s c).lab = s.lab ∧ (revUnboard cx s c).steps = s.steps ∧ (revUnboard cx s c).acc = s.acc ∧
    (revUnboard cx s c).reached = s.reached ∧ (revUnboard cx s c).tentAccDep = s.tentAccDep := by
  unfold revUnboard; split <;> exact ⟨rfl, rfl, rfl, rfl, rfl⟩

theorem revUnboard_steps (cx : Ctx) (s : RState) (c : Conn) : (revUnboard cx s c).steps = s.steps :=
  (revUnboard_frame cx s c).2.1

theorem revBoard_shift {k L W : Int} {cx cx' : Ctx} (h : CtxShR k cx cx') (hL : 0 ≤ L) (hLk : 0 ≤ L + k)
    (hrfoot : ∀ z, ∀ f ∈ cx.ds.rfootOf z, f.time ≤ W) (hW : 0 ≤ W) (hmw : 0 ≤ cx.p.minWait) (single : Bool) (s : RState) (c : Conn) (hs : LabGe L s)
    (hdep : L ≤ c.dep - W - c.effWait cx.p.minWait) :
    revBoard cx' single (shR k s) (shiftConn k c) = shR k (revBoard cx single s c) ∧ LabGe L (revBoard cx single s c) := by
  have hcd : L ≤ c.dep := by have := effWait_nonneg c cx.p.minWait hmw; omega
  have hs1 : ({ shR k s with reached := true, tentAccDep := (shiftConn k c).dep } : RState) = shR k { s with reached := true, tentAccDep := c.dep } := by
    simp only [shR]; congr 1; rw [shL_fin k _ L hcd hL]; rfl
  have hr : (shR k s).reached = s.reached := rfl
  unfold revBoard
  simp only [shiftConn_canBoard, shiftConn_trip, shiftConn_depStop, shR_exitC_isSome, effWait_shift, hr, ← h.same.mw,
    nodesAccess_same h.same, ← h.same.rfoot]
  split
  · split
    · rw [hs1]; exact revFootFold_shift h hL hLk c _ hdep hW _ _ (hrfoot c.depStop) hs
    · exact revFootFold_shift h hL hLk c _ hdep hW _ s (hrfoot c.depStop) hs
  · exact ⟨rfl, hs⟩

def StepsWaitOk (mw : Int) (s : RState) : Prop := ∀ n, 0 ≤ enterWait mw (s.steps n)

theorem enterWait_nonneg (mw : Int) (hmw : 0 ≤ mw) (j : JStep) (hc : ∀ e, j.enter = some e → 0 ≤ e.minWait ∨ e.minWait = -1) : 0 ≤ enterWait mw j :=
  zero_le_enterWait mw hmw j

def AccDepOk (L : Int) (s : RState) : Prop := s.reached = true → L ≤ s.tentAccDep

theorem revBreak_shift {k L : Int} {cx cx' : Ctx} (h : CtxShR k cx cx') (hL : 0 ≤ L) (single : Bool) (s : RState) (c : Conn)
    (hd : single = true → AccDepOk L s) : revBreak cx' single (shR k s) (shiftConn k c) = revBreak cx single s c := by
  have hr : (shR k s).reached = s.reached := rfl
  have ht : (shR k s).tentAccDep = shL k s.tentAccDep := rfl
  have e2 : cx.arrT + k - (c.arr + k) > cx.p.maxTotal ↔ cx.arrT - c.arr > cx.p.maxTotal := by omega
  unfold revBreak
  apply Bool.eq_iff_iff.2
  simp only [decide_eq_true_eq]
  simp only [shiftConn_arr, h.arrT, h.maxTotal, maxAccess_same h.same, hr, ht, ← h.same.mw, e2]
  cases single with
  | false => simp only [Bool.false_eq_true, false_and]
  | true =>
    by_cases hre : s.reached = true
    · rw [shL_fin k _ L (hd rfl hre) hL, show c.arr + k < s.tentAccDep + k - cx.maxAccess - cx.p.minWait ↔
        c.arr < s.tentAccDep - cx.maxAccess - cx.p.minWait by omega]
    · simp only [hre, Bool.false_eq_true, false_and, and_false]

theorem revStep_shift_labGe {k L W : Int} {cx cx' : Ctx} (h : CtxShR k cx cx') (hL : 0 ≤ L) (hLk : 0 ≤ L + k)
    (hrfoot : ∀ z, ∀ f ∈ cx.ds.rfootOf z, f.time ≤ W) (hW : 0 ≤ W) (hmw : 0 ≤ cx.p.minWait) (u : Nat → Bool) (single : Bool)
    (s : RState) (c : Conn) (hs : LabGe L s) (hd : single = true → AccDepOk L s)
    (hca : L ≤ c.arr) (hdep : L ≤ c.dep - W - c.effWait cx.p.minWait) :
    revStep cx' u single (shR k s) (shiftConn k c) = shR k (revStep cx u single s c) ∧ LabGe L (revStep cx u single s c) := by
  have hstop : (shR k s).stop = s.stop := rfl
  have E1 : (shiftConn k c).arr ≤ cx'.arrT - (if single = true then cx'.minEgress else 0) ↔ c.arr ≤ cx.arrT - (if single = true then cx.minEgress else 0) := by
    rw [h.arrT, minEgress_same h.same, shiftConn_arr]; omega
  have E4 : (shR k s).lab c.arrStop ≥ (shiftConn k c).arr ↔ s.lab c.arrStop ≥ c.arr := shL_ge hL hLk hca
  obtain ⟨b1, b2⟩ := revBoard_shift h hL hLk hrfoot hW hmw single (revUnboard cx s c) c (by intro n; rw [(revUnboard_frame cx s c).1]; exact hs n) hdep
  refine ⟨?_, revStep_ind (LabGe L) cx u single s c hs hs b2⟩
  unfold revStep
  simp only [hstop, E1, shiftConn_trip, shiftConn_arrStop, ← h.same.dis, revBreak_shift h hL single s c hd, shR_exitC_isSome, E4,
    revUnboard_shift h hL hLk s c hca hmw, b1, apply_ite (shR k)]
  rfl

theorem revStep_shift {k L W : Int} {cx cx' : Ctx} (h : CtxShR k cx cx') (hL : 0 ≤ L) (hLk : 0 ≤ L + k)
    (hrfoot : ∀ z, ∀ f ∈ cx.ds.rfootOf z, f.time ≤ W) (hW : 0 ≤ W) (hmw : 0 ≤ cx.p.minWait)
    (s : RState) (c : Conn) (hs : LabGe L s)
    (hca : L ≤ c.arr) (hdep : L ≤ c.dep - W - c.effWait cx.p.minWait) :
    revStep cx' (fun _ => true) false (shR k s) (shiftConn k c) = shR k (revStep cx (fun _ => true) false s c) ∧
      LabGe L (revStep cx (fun _ => true) false s c) :=
  revStep_shift_labGe h hL hLk hrfoot hW hmw _ false s c hs nofun hca hdep

def AccFrom (l : List Conn) (s : RState) : Prop := ∀ n js, s.acc n = some js → ∃ e ∈ l, js.enter = some e

theorem revFoot_reached (cx : Ctx) (c : Conn) (mw : Int) (s : RState) (f : NTD) :
    (revFoot cx c mw s f).reached = s.reached ∧ (revFoot cx c mw s f).tentAccDep = s.tentAccDep := by
  unfold revFoot revFootAcc revFootLabel
  simp only [apply_ite RState.reached, apply_ite RState.tentAccDep, ite_self, and_self]

theorem revFoot_acc_upd (cx : Ctx) (c : Conn) (mw : Int) (s : RState) (f : NTD) :
    (revFoot cx c mw s f).acc = s.acc ∨ ∃ js : JStep, js.enter = some c ∧ (revFoot cx c mw s f).acc = upd s.acc f.stop (some js) := by
  have hl : (revFootLabel c mw s f).acc = s.acc := by unfold revFootLabel; split <;> rfl
  unfold revFoot revFootAcc
  simp only [apply_ite RState.acc, hl]
  split
  · exact Or.inl rfl
  · split
    · split
      · exact Or.inr ⟨_, rfl, rfl⟩
      · exact Or.inl rfl
    · exact Or.inl rfl

theorem revFoot_accFrom {l : List Conn} (cx : Ctx) (c : Conn) (hc : c ∈ l) (mw : Int) (s : RState) (f : NTD) (h : AccFrom l s) :
    AccFrom l (revFoot cx c mw s f) := by
  intro n js hjs
  rcases revFoot_acc_upd cx c mw s f with e | ⟨js', hx, e⟩ <;> rw [e] at hjs
  · exact h n js hjs
  · rw [upd_apply] at hjs
    split at hjs
    · cases hjs; exact ⟨c, hc, hx⟩
    · exact h n js hjs

theorem revFootFold_props {l : List Conn} (cx : Ctx) (c : Conn) (hc : c ∈ l) (mw : Int) (fs : List NTD) (s : RState) (h : AccFrom l s) :
    (fs.foldl (revFoot cx c mw) s).reached = s.reached ∧ (fs.foldl (revFoot cx c mw) s).tentAccDep = s.tentAccDep ∧
    AccFrom l (fs.foldl (revFoot cx c mw) s) :=
  foldl_inv (fun t => t.reached = s.reached ∧ t.tentAccDep = s.tentAccDep ∧ AccFrom l t)
    (fun t f _ ⟨a, b, e⟩ => ⟨(revFoot_reached cx c mw t f).1.trans a, (revFoot_reached cx c mw t f).2.trans b, revFoot_accFrom cx c hc mw t f e⟩)
    ⟨rfl, rfl, h⟩

theorem revBoard_inv1 {L W : Int} {cx : Ctx} {l : List Conn} (hW : 0 ≤ W) (hmw : 0 ≤ cx.p.minWait) (s : RState) (c : Conn) (hc : c ∈ l)
    (hdep : L ≤ c.dep - W - c.effWait cx.p.minWait) (single : Bool) (hd : AccDepOk L s) (hf : AccFrom l s) :
    AccDepOk L (revBoard cx single s c) ∧ AccFrom l (revBoard cx single s c) := by
  have hcd : L ≤ c.dep := by have := effWait_nonneg c cx.p.minWait hmw; omega
  unfold revBoard
  split
  · split
    · obtain ⟨_, p2, p3⟩ := revFootFold_props cx c hc (c.effWait cx.p.minWait) (cx.ds.rfootOf c.depStop)
        { s with reached := true, tentAccDep := c.dep } hf
      exact ⟨fun _ => by rw [p2]; exact hcd, p3⟩
    · obtain ⟨p1, p2, p3⟩ := revFootFold_props cx c hc (c.effWait cx.p.minWait) (cx.ds.rfootOf c.depStop) s hf
      exact ⟨fun hr => by rw [p1] at hr; rw [p2]; exact hd hr, p3⟩
  · exact ⟨hd, hf⟩

/-- what the scan keeps, so that each comparison with a table entry reads a real clock value ≥ `L` or the sentinel -/
structure RevInv1 (L : Int) (l : List Conn) (s : RState) : Prop where
  lab : LabGe L s
  dep : AccDepOk L s
  acc : AccFrom l s

theorem revStep_shift_inv1 {k L W : Int} {cx cx' : Ctx} {l : List Conn} (h : CtxShR k cx cx') (hL : 0 ≤ L) (hLk : 0 ≤ L + k)
    (hrfoot : ∀ z, ∀ f ∈ cx.ds.rfootOf z, f.time ≤ W) (hW : 0 ≤ W) (hmw : 0 ≤ cx.p.minWait) (u : Nat → Bool) (single : Bool)
    (s : RState) (c : Conn) (hc : c ∈ l) (hs : RevInv1 L l s)
    (hca : L ≤ c.arr) (hdep : L ≤ c.dep - W - c.effWait cx.p.minWait) :
    revStep cx' u single (shR k s) (shiftConn k c) = shR k (revStep cx u single s c) ∧ RevInv1 L l (revStep cx u single s c) := by
  obtain ⟨e, hl⟩ := revStep_shift_labGe h hL hLk hrfoot hW hmw u single s c hs.lab (fun _ => hs.dep) hca hdep
  obtain ⟨_, _, k3, k1, k2⟩ := revUnboard_frame cx s c
  obtain ⟨b3, b4⟩ := revBoard_inv1 hW hmw (revUnboard cx s c) c hc hdep single (by intro hr; rw [k1] at hr; rw [k2]; exact hs.dep hr)
    (by intro n js hjs; rw [k3] at hjs; exact hs.acc n js hjs)
  exact ⟨e, hl, revStep_ind (AccDepOk L) cx u single s c hs.dep hs.dep b3,
    revStep_ind (AccFrom l) cx u single s c hs.acc hs.acc b4⟩

theorem recon_shift {k : Int} {ds ds' : Dataset} (h : TripLists k ds ds') (s : RState) (first : JStep) :
    reconLoop (shR k s).steps (ds'.nStops + 2) (shJ k first) [] none =
      (reconLoop s.steps (ds.nStops + 2) first [] none).map fun r => (r.1.map (shJ k), r.2) := by
  rw [h.nStops]; exact reconLoop_shift k s.steps _ first [] none

theorem reverseNode_shift {k : Int} {cx cx' : Ctx} (h : CtxShR k cx cx') (ht : TripLists k cx.ds cx'.ds) (s : RState) (node : Nat) :
    reverseNode cx' (shR k s) node = shNodeOut k (reverseNode cx s node) := by
  unfold reverseNode
  rw [shR_acc]
  cases hs : s.acc node with
  | none => rfl
  | some first =>
    simp only [Option.map_some]
    rw [recon_shift ht]
    cases reconLoop s.steps (cx.ds.nStops + 2) first [] none with
    | none => rfl
    | some r =>
      obtain ⟨legs, lastStop⟩ := r
      simp only [Option.map_some]
      rw [funext (nodesEgress_same h.same)]
      cases lastStop.bind cx.nodesEgress with
      | none => rfl
      | some eg =>
        simp only
        have hj : legs.map (shJ k) ++ [({ walk := eg.time, dist := eg.dist } : JStep)] = (legs ++ [({ walk := eg.time, dist := eg.dist } : JStep)]).map (shJ k) := by
          simp [shJ]
        rw [hj, optimizeJourney_shift ht]
        cases optimizeJourney cx.ds (legs ++ [{ walk := eg.time, dist := eg.dist }]) with
        | none => rfl
        | some o =>
          simp only [Option.map_some, shJ]
          cases first.enter with
          | none => rfl
          | some e =>
            simp only [Option.map_some, h.arrT, h.maxTotal, ← h.same.mw, effWait_shift, shiftConn_dep, shO, countTransfers_shift ht]
            rw [show e.dep + k - e.effWait cx.p.minWait = (e.dep - e.effWait cx.p.minWait) + k by omega]
            generalize e.dep - e.effWait cx.p.minWait = d
            rw [show cx.arrT + k - (d + k) = cx.arrT - d by omega]
            split
            · simp only [shNodeOut, Option.map_some, shNode]; congr 3; omega
            · rfl

def LabsInit (L : Int) (cx : Ctx) : Prop := ∀ e ∈ cx.egressFoot, L ≤ cx.arrT - e.time

theorem RState_init_shift {k L : Int} {cx cx' : Ctx} (h : CtxShR k cx cx') (hL : 0 ≤ L) (ha : LabsInit L cx) :
    RState.init cx' = shR k (RState.init cx) ∧ LabGe L (RState.init cx) := by
  refine ⟨?_, foldl_upd_all (fun t => t = -1 ∨ L ≤ t) NTD.stop (fun e => cx.arrT - e.time) (fun e he => Or.inr (ha e he)) (fun _ => Or.inl rfl)⟩
  unfold RState.init shR
  rw [← h.same.egr, h.arrT]
  simp only
  rw [foldl_upd_map (shL k) NTD.stop (fun e => cx.arrT - e.time) (fun e => cx.arrT + k - e.time) _ _
    (fun e he => by rw [shL_fin k _ L (ha e he) hL]; omega), init_steps_shift k]
  simp only [shL, if_true, shJ, Option.map_none]

/-- `W`: the longest footpath; departure − `W` − waiting is a label candidate -/
def ConnsGe (L W mw : Int) (l : List Conn) : Prop := ∀ c ∈ l, L ≤ c.arr ∧ L ≤ c.dep - W - c.effWait mw

theorem revLt_shift (k : Int) (a b : Conn) : revLt (shiftConn k a) (shiftConn k b) = revLt a b := by
  apply Bool.eq_iff_iff.2
  simp only [revLt, Bool.or_eq_true, Bool.and_eq_true, decide_eq_true_eq]
  simp only [shiftConn]
  constructor <;> intro h <;> omega

theorem revAll_shift (k : Int) (ds : Dataset) (hal : TripsAligned ds) : (shiftDs k ds).revAll = ds.revAll.map (shiftConn k) := by
  simp only [Dataset.revAll]; rw [conns_shift k ds hal, isort_map revLt revLt (shiftConn k) (revLt_shift k)]

theorem rev_list_shift (k : Int) (ds : Dataset) (hal : TripsAligned ds) (sc : Scenario) :
    ((shiftDs k ds).connSetOf sc).rev = ((ds.connSetOf sc).rev).map (shiftConn k) := by
  simp only [Dataset.connSetOf, mkConnSet]
  rw [revAll_shift k ds hal, List.filter_map]
  congr 1
  apply List.filter_congr
  intro c _
  simp only [Function.comp]
  rw [tripEnabled_shift]; rfl

theorem tripLists_shift (k : Int) (ds : Dataset) (hal : TripsAligned ds) : TripLists k ds (shiftDs k ds) := by
  refine ⟨?_, ?_, transferable_shift k ds, rfl⟩
  · intro t; simp only [Dataset.tripFwd]; rw [fwdAll_shift k ds hal, List.filter_map]; rfl
  · intro t; simp only [Dataset.tripRev]; rw [revAll_shift k ds hal, List.filter_map]; rfl

theorem aligned_restrict (ds : Dataset) (cs : ConnSet) (h : TripsAligned ds) : TripsAligned (ds.restrict cs) := by
  intro tr htr
  simp only [Dataset.restrict, List.mem_filter] at htr
  exact h tr htr.1

theorem tripLists_restrict_shift (k : Int) (ds : Dataset) (hal : TripsAligned ds) (sc : Scenario) :
    TripLists k (ds.restrict (ds.connSetOf sc)) ((shiftDs k ds).restrict ((shiftDs k ds).connSetOf sc)) := by
  rw [restrict_shift]; exact tripLists_shift k _ (aligned_restrict ds _ hal)

theorem ctxShR_shift (k : Int) (ds : Dataset) (p : Params) (A E : List NTD) (dT dT' aT aT' : Int)
    (hd : (dT = -1 ∧ dT' = -1) ∨ (dT ≠ -1 ∧ dT' ≠ -1 ∧ dT' = dT + k)) (ha : aT' = aT + k) :
    CtxShR k (qCtx ds p A E dT aT)
      (mkCtx ((shiftDs k ds).restrict ((shiftDs k ds).connSetOf (ds.scenarioOf p))) (shiftP k p) ((shiftDs k ds).connSetOf (ds.scenarioOf p))
        A E dT' aT') :=
  have h := ctxSh_shift k ds p A E dT (dT + k) aT aT' rfl
  ⟨ctxSame_shift k ds p A E dT aT dT' aT', rfl, rfl, ha, hd, h.transferable, h.nStops⟩

theorem revScan_shift {k L W : Int} {cx cx' : Ctx} (h : CtxShR k cx cx') (hrev : cx'.cs.rev = cx.cs.rev.map (shiftConn k))
    (hL : 0 ≤ L) (hLk : 0 ≤ L + k) (hrfoot : ∀ z, ∀ f ∈ cx.ds.rfootOf z, f.time ≤ W) (hW : 0 ≤ W) (hmw : 0 ≤ cx.p.minWait)
    (hl : ConnsGe L W cx.p.minWait cx.cs.rev) (ha : LabsInit L cx) (u : Nat → Bool) (single : Bool) :
    revScan cx' u single 0 = shR k (revScan cx u single 0) ∧ RevInv1 L cx.cs.rev (revScan cx u single 0) := by
  obtain ⟨hi1, hi2⟩ := RState_init_shift h hL ha
  unfold revScan
  rw [List.drop_zero, List.drop_zero, hrev, hi1]
  exact foldl_sim (shR k) (shiftConn k) (RevInv1 L cx.cs.rev) (fun c => c ∈ cx.cs.rev ∧ L ≤ c.arr ∧ L ≤ c.dep - W - c.effWait cx.p.minWait)
    (fun s c hs hc => revStep_shift_inv1 h hL hLk hrfoot hW hmw u single s c hc.1 hs hc.2.1 hc.2.2) _ _ (fun c hc => ⟨hc, hl c hc⟩)
    ⟨hi2, by intro hr; simp [RState.init] at hr, by intro n js hjs; simp [RState.init] at hjs⟩

/-- range conditions of `C12_full_accessibility_arrival`: `L ≥ 0` on both sides of the shift, `W` the longest footpath -/
structure RevRange (ds : Dataset) (p : Params) (k L W : Int) : Prop where
  hL : 0 ≤ L
  hLk : 0 ≤ L + k
  hW : 0 ≤ W
  rfoot : ∀ z, ∀ f ∈ ds.rfootOf z, f.time ≤ W
  mw : 0 ≤ p.minWait
  conns : ConnsGe L W p.minWait (ds.connSetOf (ds.scenarioOf p)).rev
  egress : ∀ e ∈ ds.egress, L ≤ p.time - e.time

/-- **C12 in full for arrival-time accessibility**: same statement as `C12_full_accessibility_departure` for the reverse
    calculation; the range conditions keep the clock values clear of the reverse tables' sentinel -1 (every label candidate -
    departure minus longest footpath minus waiting - stays ≥ 0 on both sides: this is the property's "next to 0:00"). -/
theorem C12_full_accessibility_arrival (ds : Dataset) (p : Params) (k L W : Int) (hal : TripsAligned ds) (hf : p.forward = false)
    (R : RevRange ds p k L W) :
    calculateAllNodes0 (shiftDs k ds) (shiftP k p) = shAccOutcome k (calculateAllNodes0 ds p) := by
  have hfw : (shiftP k p).forward = false := hf
  have hsh := ctxShR_shift k ds p [] (routerLookup (ds.restrict (ds.connSetOf (ds.scenarioOf p))).egress p.maxEgress)
    (-1) (-1) p.time (shiftP k p).time (Or.inl ⟨rfl, rfl⟩) rfl
  unfold calculateAllNodes0
  simp only [hfw, hf, Bool.false_eq_true, if_false]
  rw [scenarioOf_shift, lookupEgress_shift,
    (revScan_shift hsh (rev_list_shift k ds hal _) R.hL R.hLk R.rfoot R.hW R.mw R.conns (fun e he => R.egress e (List.mem_filter.1 he).1)
      (fun _ => true) false).1]
  exact accOutcome_shift k _ _ _ _ (fun n => reverseNode_shift hsh (tripLists_restrict_shift k ds hal _) _ n) hsh.nStops

/-- `C12_full_accessibility_arrival` for the calculation WITH the hour index (what the server runs), for requests inside
    [0, 32 h) on both sides of the shift -/
theorem C12_full_accessibility_arrival_indexed (ds : Dataset) (p : Params) (k L W : Int) (hal : TripsAligned ds) (hf : p.forward = false)
    (R : RevRange ds p k L W) (h0 : 0 ≤ p.time) (ht : p.time < (HOUR_END : Int) * 3600) (h0' : 0 ≤ p.time + k)
    (ht' : p.time + k < (HOUR_END : Int) * 3600) (hacc : ∀ a ∈ ds.access, 0 ≤ a.time) :
    calculateAllNodes (shiftDs k ds) (shiftP k p) = shAccOutcome k (calculateAllNodes ds p) := by
  rw [C12_index_transparent_accessibility ds p h0 ht hacc,
    C12_index_transparent_accessibility (shiftDs k ds) (shiftP k p) h0' ht' hacc]
  exact C12_full_accessibility_arrival ds p k L W hal hf R

theorem rfootOf_time_le (ds : Dataset) (W : Int) (h : ∀ x ∈ ds.foot, x.time ≤ W) (z : Nat) (f : NTD) (hf : f ∈ ds.rfootOf z) : f.time ≤ W := by
  simp only [Dataset.rfootOf, List.mem_filterMap] at hf
  obtain ⟨x, hx, e⟩ := hf
  split at e
  · cases e; exact h x hx
  · cases e

def nvRev' : Params := { forward := false, time := 2000, scenario := 0, minWait := 60 }

/-- non-vacuity of `RevRange`, for an offset that crosses an hour mark backwards; the two maps are shifted copies -/
theorem nv_full_shift_rev :
    RevRange nvDs' nvRev' (-500) 600 60 ∧
    (match calculateAllNodes nvDs' nvRev', calculateAllNodes (shiftDs (-500) nvDs') (shiftP (-500) nvRev') with
      | .ok (l, _), .ok (l', _) => decide (l.map (fun (a : AccNode) => (a.stop, a.nodeTime + (-500), a.totalTravelTime, a.numberOfTransfers)) =
          l'.map (fun (a : AccNode) => (a.stop, a.nodeTime, a.totalTravelTime, a.numberOfTransfers))) && !l.isEmpty
      | _, _ => false) = true := by
  refine ⟨⟨by decide, by decide, by decide, rfootOf_time_le _ 60 (by decide), by decide, ?_, by decide⟩, by decide⟩
  unfold ConnsGe; decide

end Tr
