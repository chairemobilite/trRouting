/-
  Property C12 — shifting timetable and request shifts the answer; here: the hour index plays no part in it.

  The hour index - the one place where absolute hour boundaries (x:00, 24:00, the
  slots next to 0:00 and 32:00) enter a calculation - is TRANSPARENT: every route and
  accessibility calculation returns exactly what the same calculation returns when each scan
  starts at the head of the sorted list (`calculateSingle0`, `calculateAllNodes0`: no index, no
  hour arithmetic at all).  What the index skips are connections that leave before the
  requested departure resp. arrive after the requested arrival, and the first test of a scan
  step discards those without touching the tables (`fwdScan_index_free`, `revScan_index_free`).

  That the index-free calculation commutes with a translation of all clock values is proved in
  `Props/C12Full*.lean`, on the range where no compared value meets a sentinel (-1 / MAX_INT / 0).
-/
import TrVerif.Props.C07SecondPass
namespace Tr

def singleReverse0 (cx : Ctx) (usable : Nat → Bool) : Outcome Route :=
  let s := revScan cx usable true 0
  if s.count = 0 then .noRouting .noServiceToDestination
  else reverseJourney cx s (bestAccess cx s)

def calculateSingleWith0 (ds : Dataset) (cs : ConnSet) (p : Params) (accessFoot egressFoot : List NTD) : Outcome Route :=
  if accessFoot.isEmpty ∧ egressFoot.isEmpty then .noRouting .noAccessAtOriginAndDestination
  else if accessFoot.isEmpty then .noRouting .noAccessAtOrigin
  else if egressFoot.isEmpty then .noRouting .noAccessAtDestination
  else if p.forward then
    let cx := mkCtx ds p cs accessFoot egressFoot p.time (-1)
    let fs := fwdScan cx true 0
    if fs.count = 0 then .noRouting .noServiceFromOrigin
    else match bestEgress cx fs with
      | none => .noRouting .noRoutingFound
      | some (bestArr, _) => singleReverse0 { cx with arrT := bestArr } fs.usable
  else
    singleReverse0 (mkCtx ds p cs accessFoot egressFoot (-1) p.time) (fun _ => true)

def calculateSingle0 (ds : Dataset) (p : Params) : Outcome Route :=
  calculateSingleWith0 (ds.restrict (ds.connSetOf (ds.scenarioOf p))) (ds.connSetOf (ds.scenarioOf p)) p
    (routerLookup ds.access p.maxAccess) (routerLookup ds.egress p.maxEgress)

def calculateAllNodes0 (ds0 : Dataset) (p : Params) : Outcome (List AccNode × Nat) :=
  let cs := ds0.connSetOf (ds0.scenarioOf p)
  let ds := ds0.restrict cs
  if p.forward then
    let accessFoot := routerLookup ds.access p.maxAccess
    if accessFoot.isEmpty then .noRouting .noAccessAtOrigin else
    let cx := mkCtx ds p cs accessFoot [] p.time (-1)
    let fs := fwdScan cx false 0
    if fs.count = 0 then .noRouting .noServiceFromOrigin
    else match collectNodes (forwardNode cx fs) (List.range ds.nStops) [] with
      | .ok l => .ok (l, ds.nStops)
      | .noRouting r => .noRouting r
      | .exception w => .exception w
  else
    let egressFoot := routerLookup ds.egress p.maxEgress
    if egressFoot.isEmpty then .noRouting .noAccessAtDestination else
    let cx := mkCtx ds p cs [] egressFoot (-1) p.time
    let s := revScan cx (fun _ => true) false 0
    if s.count = 0 then .noRouting .noServiceToDestination
    else match collectNodes (reverseNode cx s) (List.range ds.nStops) [] with
      | .ok l => .ok (l, ds.nStops)
      | .noRouting r => .noRouting r
      | .exception w => .exception w

theorem singleReverse_eq0 (cx : Ctx) (u : Nat → Bool) (hidx : cx.cs.revIdx = revIndex cx.cs.rev) (h0 : 0 ≤ cx.arrT)
    (hme : 0 ≤ cx.minEgress) : singleReverse cx u = singleReverse0 cx u := by
  obtain ⟨start, hst⟩ := rev_start_exists cx.cs.rev (hourOf cx.arrT + 1)
  rw [← hidx] at hst
  unfold singleReverse singleReverse0
  rw [hst]
  simp only
  rw [revScan_index_free cx u true hidx h0 (fun _ => hme) hst]

theorem minTime_nonneg' (l : List NTD) (h : ∀ a ∈ l, 0 ≤ a.time) : 0 ≤ minTime l := minTime_nonneg l h

theorem calculateSingleWith_eq0 {ds : Dataset} {cs : ConnSet} {p : Params} {acc egr : List NTD}
    (hidxF : cs.fwdIdx = fwdIndex cs.fwd) (hidxR : cs.revIdx = revIndex cs.rev)
    (h0 : 0 ≤ p.time) (ht : p.time < (HOUR_END : Int) * 3600) (hma : 0 ≤ minTime acc) (hme : 0 ≤ minTime egr) :
    calculateSingleWith ds cs p acc egr = calculateSingleWith0 ds cs p acc egr := by
  unfold calculateSingleWith calculateSingleWith0
  split
  · rfl
  · split
    · rfl
    · split
      · rfl
      · split
        · obtain ⟨start, hst⟩ := fwd_start_exists cs.fwd (hourOf p.time)
          rw [← hidxF] at hst
          simp only [mkCtx_cs]
          rw [hst]
          simp only
          rw [fwdScan_index_free (mkCtx ds p cs acc egr p.time (-1)) true hidxF h0 ht hma hst]
          split
          · rfl
          · generalize hbest : bestEgress _ _ = b
            match b with
            | none => rfl
            | some (ba, node) =>
              obtain ⟨_, _, _, _, _, _, _, _, _, _, hba0⟩ := bestEgress_sound hbest
              exact singleReverse_eq0 _ _ hidxR hba0 hme
        · exact singleReverse_eq0 _ _ hidxR h0 hme

/-- **C12 (hour index transparent, route).** For every dataset, scenario and route query with the
    requested time in [0, 32 h) and non-negative walks of the router, the answer equals the answer
    of the calculation that uses no hour index at all. -/
theorem C12_index_transparent_route (ds : Dataset) (p : Params) (h0 : 0 ≤ p.time) (ht : p.time < (HOUR_END : Int) * 3600)
    (hacc : ∀ a ∈ ds.access, 0 ≤ a.time) (hegr : ∀ g ∈ ds.egress, 0 ≤ g.time) :
    calculateSingle ds p = calculateSingle0 ds p :=
  calculateSingleWith_eq0 rfl rfl h0 ht (minTime_routerLookup_nonneg hacc _) (minTime_routerLookup_nonneg hegr _)

/-- **C12 (hour index transparent, accessibility).** For every dataset, scenario and accessibility request with the
    requested time in [0, 32 h) and non-negative access walks, the answer equals the answer of the calculation that
    uses no hour index at all.  (Arrival-time requests use only `0 ≤ p.time` of this.) -/
theorem C12_index_transparent_accessibility (ds : Dataset) (p : Params) (h0 : 0 ≤ p.time) (ht : p.time < (HOUR_END : Int) * 3600)
    (hacc : ∀ a ∈ ds.access, 0 ≤ a.time) :
    calculateAllNodes ds p = calculateAllNodes0 ds p := by
  unfold calculateAllNodes calculateAllNodesCS calculateAllNodes0
  simp only [mkCtx_cs]
  split
  · split
    · rfl
    · obtain ⟨start, hst⟩ := fwd_start_exists (ds.connSetOf (ds.scenarioOf p)).fwd (hourOf p.time)
      rw [show (ds.connSetOf (ds.scenarioOf p)).fwdIdx = fwdIndex (ds.connSetOf (ds.scenarioOf p)).fwd from rfl, hst]
      simp only
      rw [fwdScan_index_free (mkCtx (ds.restrict (ds.connSetOf (ds.scenarioOf p))) p (ds.connSetOf (ds.scenarioOf p))
        (routerLookup (ds.restrict (ds.connSetOf (ds.scenarioOf p))).access p.maxAccess) [] p.time (-1)) false rfl h0 ht
        (minTime_routerLookup_nonneg hacc _) hst]
      rfl
  · split
    · rfl
    · obtain ⟨start, hst⟩ := rev_start_exists (ds.connSetOf (ds.scenarioOf p)).rev (hourOf p.time + 1)
      rw [show (ds.connSetOf (ds.scenarioOf p)).revIdx = revIndex (ds.connSetOf (ds.scenarioOf p)).rev from rfl, hst]
      simp only
      rw [revScan_index_free (mkCtx (ds.restrict (ds.connSetOf (ds.scenarioOf p))) p (ds.connSetOf (ds.scenarioOf p)) []
        (routerLookup (ds.restrict (ds.connSetOf (ds.scenarioOf p))).egress p.maxEgress) (-1) p.time) _ false rfl h0
        (fun h => nomatch h) hst]
      rfl

end Tr
