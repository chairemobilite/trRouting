/-
  Props/C18Params — classification of a request by its parameter list (`Model/Params.lean`), for
  EVERY list of (name, value) pairs in EVERY order, every coordinate parser and every scenario table
  (the theorems `C18_*` below).

  The three factories are loops over the pairs that thread a state and stop at the first error, i.e.
  `List.foldlM` in `Except`.  A success is analysed by an invariant `P pairs-read state`
  (`foldlM_ok_inv`), an error by the pair that raised it (`foldlM_error`).

  `Par.handle` is a model of its own: no theorem relates it to `parseParams` (`Model/Driver.lean`), the
  parameter reading inside `Tr.handle` that C13-C15 and C20 speak about.
-/
import TrVerif.Model.Params
namespace Tr.Par

/-- what must be wrong with a request for each parameter error (written from the API description) -/
def Defect (env : Env) (ps : List (String × String)) : PErr → Prop
  | .invalidNumerical => ∃ k v, (k, v) ∈ ps ∧ k ∈ numericKeys ∧ stoiFull v = none
  | .invalidOrigin => ∃ v, ("origin", v) ∈ ps ∧ coordPair env v = false
  | .invalidDestination => ∃ v, ("destination", v) ∈ ps ∧ coordPair env v = false
  | .invalidPlace => ∃ v, ("place", v) ∈ ps ∧ coordPair env v = false
  | .missingOrigin => ∀ v, ("origin", v) ∉ ps
  | .missingDestination => ∀ v, ("destination", v) ∉ ps
  | .missingPlace => ∀ v, ("place", v) ∉ ps
  | .missingScenario => ∀ v, ("scenario_id", v) ∈ ps → env.scen v = none        -- absent, malformed or unknown: no scenario is named
  | .emptyScenario => ∃ v, ("scenario_id", v) ∈ ps ∧ env.scen v = some true
  | .missingTime => (∀ v, ("time_of_trip", v) ∉ ps) ∨ ∃ v n, ("time_of_trip", v) ∈ ps ∧ stoiFull v = some n ∧ n < 0

theorem PErr_code_documented (e : PErr) : e.code ∈ Gen.documentedCodes := by
  cases e <;> decide

section Loop
variable {σ α ε : Type} {f : σ → α → Except ε σ}

theorem foldlM_ok_inv (P : List α → σ → Prop) (hstep : ∀ pre s a s', P pre s → f s a = .ok s' → P (pre ++ [a]) s')
    (l pre : List α) (s s' : σ) (hP : P pre s) (h : l.foldlM f s = .ok s') : P (pre ++ l) s' := by
  induction l generalizing pre s with
  | nil => cases h; rwa [List.append_nil]
  | cons a l ih =>
    rw [List.foldlM_cons] at h
    cases hf : f s a with
    | error e => rw [hf] at h; cases h
    | ok s1 =>
      rw [hf] at h
      rw [List.append_cons]
      exact ih _ s1 (hstep _ _ _ _ hP hf) h

theorem foldlM_error (l : List α) (s : σ) (e : ε) (h : l.foldlM f s = .error e) : ∃ a ∈ l, ∃ s1, f s1 a = .error e := by
  induction l generalizing s with
  | nil => cases h
  | cons a l ih =>
    rw [List.foldlM_cons] at h
    cases hf : f s a with
    | error e' => rw [hf] at h; cases h; exact ⟨a, List.mem_cons_self, s, hf⟩
    | ok s1 =>
      rw [hf] at h
      obtain ⟨b, hb, r⟩ := ih s1 h
      exact ⟨b, List.mem_cons_of_mem _ hb, r⟩

theorem loop_eq_foldlM {loop : List α → σ → Except ε σ} (hnil : ∀ s, loop [] s = .ok s)
    (hcons : ∀ a l s, loop (a :: l) s = match f s a with | .error e => .error e | .ok s' => loop l s') :
    ∀ l s, loop l s = l.foldlM f s
  | [], s => hnil s
  | a :: l, s => by
    rw [hcons, List.foldlM_cons]
    cases f s a with
    | error e => rfl
    | ok s1 => exact loop_eq_foldlM hnil hcons l s1

end Loop

theorem commonLoop_eq (env : Env) : ∀ ps c, commonLoop env ps c = ps.foldlM (commonStep env) c :=
  loop_eq_foldlM (fun _ => rfl) fun kv _ c => by rw [commonLoop]; cases commonStep env c kv <;> rfl

theorem routeLoop_eq (env : Env) : ∀ ps s, routeLoop env ps s = ps.foldlM (routeStep env) s :=
  loop_eq_foldlM (fun _ => rfl) fun kv _ s => by rw [routeLoop]; cases routeStep env s kv <;> rfl

/-- the body of the loop of `createAccessibilityParameter` -/
def placeStep (env : Env) (p : Option String) (kv : String × String) : Except PErr (Option String) :=
  if kv.1 = "place" then (if coordPair env kv.2 then .ok (some kv.2) else .error .invalidPlace) else .ok p

theorem placeLoop_eq (env : Env) : ∀ ps p, placeLoop env ps p = ps.foldlM (placeStep env) p :=
  loop_eq_foldlM (fun _ => rfl) fun kv rest p => by
    by_cases hk : kv.1 = "place"
    · by_cases hc : coordPair env kv.2 = true <;> simp only [placeLoop, placeStep, hk, hc, if_true, Bool.false_eq_true, if_false]
    · simp only [placeLoop, placeStep, hk, if_false]

def Common.get (c : Common) (k : String) : Int :=
  if k = "time_of_trip" then c.time else if k = "min_waiting_time" then c.minWait else if k = "max_travel_time" then c.maxTotal
  else if k = "max_access_travel_time" then c.maxAccess else if k = "max_egress_travel_time" then c.maxEgress
  else if k = "max_transfer_travel_time" then c.maxTransfer else if k = "max_first_waiting_time" then c.maxFirstWait else 0

/-- the documented normalisation -/
def norm (k : String) (n : Int) : Int :=
  if k = "time_of_trip" then (if n < 0 then -1 else n) else if k = "min_waiting_time" then (if n < 0 then 0 else n)
  else if k = "max_first_waiting_time" then (if n ≤ 0 then -1 else n) else (if n ≤ 0 then MAX_INT else n)

/-- field by field, so that what `set` does to each field is read off by `rfl` -/
def Common.set (c : Common) (k : String) (x : Int) : Common :=
  { c with
    time := if k = "time_of_trip" then x else c.time
    minWait := if k = "min_waiting_time" then x else c.minWait
    maxTotal := if k = "max_travel_time" then x else c.maxTotal
    maxAccess := if k = "max_access_travel_time" then x else c.maxAccess
    maxEgress := if k = "max_egress_travel_time" then x else c.maxEgress
    maxTransfer := if k = "max_transfer_travel_time" then x else c.maxTransfer
    maxFirstWait := if k = "max_first_waiting_time" then x else c.maxFirstWait }

/-- what a pair with a non-numeric name does to the parameters -/
def Common.other (env : Env) (c : Common) (kv : String × String) : Common :=
  { c with
    forward := if kv.1 = "time_type" ∧ kv.2 = "1" then false else c.forward
    scenario := if kv.1 = "scenario_id" then (env.scen kv.2).or c.scenario else c.scenario }

theorem commonStep_eq (env : Env) (c : Common) (kv : String × String) : commonStep env c kv =
    if kv.1 ∈ numericKeys then
      match stoiFull kv.2 with
      | none => .error .invalidNumerical
      | some n => .ok (c.set kv.1 (norm kv.1 n))
    else .ok (c.other env kv) := by
  obtain ⟨k, v⟩ := kv
  by_cases hk : k ∈ numericKeys
  · rw [if_pos hk]
    simp only [numericKeys, List.mem_cons, List.not_mem_nil, or_false] at hk
    rcases hk with rfl | rfl | rfl | rfl | rfl | rfl | rfl <;>
      simp only [commonStep, Common.set, norm, String.reduceEq, ↓reduceIte] <;> cases stoiFull v <;> rfl
  · rw [if_neg hk]
    simp only [numericKeys, List.mem_cons, List.not_mem_nil, or_false, not_or] at hk
    simp only [commonStep, Common.other, hk, ↓reduceIte]
    by_cases h1 : k = "time_type"
    · subst h1
      simp only [String.reduceEq, ↓reduceIte, true_and]
      split <;> rfl
    · rw [if_neg h1]
      simp only [h1, false_and, ↓reduceIte]
      split
      · cases env.scen v <;> rfl
      · rfl

theorem Common.get_set {k : String} (hk : k ∈ numericKeys) (c : Common) (x : Int) (k' : String) :
    (c.set k x).get k' = if k' = k then x else c.get k' := by
  simp only [numericKeys, List.mem_cons, List.not_mem_nil, or_false] at hk
  by_cases h : k' = k
  · subst h
    rcases hk with rfl | rfl | rfl | rfl | rfl | rfl | rfl <;> simp only [Common.set, Common.get, String.reduceEq, ↓reduceIte]
  · rcases hk with rfl | rfl | rfl | rfl | rfl | rfl | rfl <;> simp only [Common.set, Common.get, String.reduceEq, ↓reduceIte, h]

theorem Common.time_set (c : Common) (k : String) (x : Int) : (c.set k x).time = if k = "time_of_trip" then x else c.time := rfl

theorem Common.get_other (env : Env) (c : Common) (kv : String × String) (k : String) : (c.other env kv).get k = c.get k := rfl

theorem Common.scenario_other (env : Env) (c : Common) (kv : String × String) :
    (c.other env kv).scenario = if kv.1 = "scenario_id" then (env.scen kv.2).or c.scenario else c.scenario := rfl

def Bounds (c : Common) : Prop :=
  0 ≤ c.minWait ∧ 0 < c.maxTotal ∧ 0 < c.maxAccess ∧ 0 < c.maxEgress ∧ 0 < c.maxTransfer ∧ (0 < c.maxFirstWait ∨ c.maxFirstWait = -1)

theorem Bounds.set {c : Common} (hb : Bounds c) {k : String} (hk : k ∈ numericKeys) (n : Int) : Bounds (c.set k (norm k n)) := by
  simp only [numericKeys, List.mem_cons, List.not_mem_nil, or_false] at hk
  rcases hk with rfl | rfl | rfl | rfl | rfl | rfl | rfl <;>
    simp only [Common.set, norm, Bounds, MAX_INT, String.reduceEq, ↓reduceIte] at hb ⊢ <;> omega

theorem default_bounds : Bounds ({} : Common) := by
  simp only [Bounds, Gen.DEFAULT_MIN_WAITING_TIME, Gen.DEFAULT_MAX_ACCESS_TRAVEL_TIME, Gen.DEFAULT_MAX_EGRESS_TRAVEL_TIME,
    Gen.DEFAULT_MAX_TRANSFER_TRAVEL_TIME, Gen.DEFAULT_FIRST_WAITING_TIME, MAX_INT]
  omega

section
variable {env : Env} {pre ps : List (String × String)} {kv : String × String}

theorem mem_snoc_key {k v : String} : (k, v) ∈ pre ++ [kv] ↔ (k, v) ∈ pre ∨ (kv.1 = k ∧ kv.2 = v) := by
  obtain ⟨a, b⟩ := kv
  simp only [List.mem_append, List.mem_singleton, Prod.mk.injEq, eq_comm]

theorem mem_snoc_of_ne {k v : String} (h : kv.1 ≠ k) : (k, v) ∈ pre ++ [kv] ↔ (k, v) ∈ pre :=
  mem_snoc_key.trans (or_iff_left fun e => h e.1)

/-- the scenario field once the pairs `ps` have been read -/
structure ScenInv (env : Env) (ps : List (String × String)) (s : Option Bool) : Prop where
  absent : s = none → ∀ v, ("scenario_id", v) ∈ ps → env.scen v = none
  present : ∀ e, s = some e → ∃ v, ("scenario_id", v) ∈ ps ∧ env.scen v = some e

theorem ScenInv.keep {s : Option Bool} (I : ScenInv env pre s) (hk : kv.1 ≠ "scenario_id") : ScenInv env (pre ++ [kv]) s :=
  ⟨fun h v hv => I.absent h v ((mem_snoc_of_ne hk).1 hv),
   fun e h => (I.present e h).imp fun _ r => ⟨(mem_snoc_of_ne hk).2 r.1, r.2⟩⟩

theorem ScenInv.read {s : Option Bool} (I : ScenInv env pre s) (hk : kv.1 = "scenario_id") :
    ScenInv env (pre ++ [kv]) ((env.scen kv.2).or s) := by
  cases hv : env.scen kv.2 with
  | some b => exact ⟨(fun h => nomatch h), fun e h => ⟨kv.2, mem_snoc_key.2 (.inr ⟨hk, rfl⟩), hv.trans h⟩⟩
  | none =>
    exact ⟨fun h v hm => (mem_snoc_key.1 hm).elim (I.absent h v) fun x => x.2 ▸ hv,
      fun e h => (I.present e h).imp fun _ r => ⟨mem_snoc_key.2 (.inl r.1), r.2⟩⟩

/-- the time of trip once the pairs `ps` have been read -/
structure TimeInv (ps : List (String × String)) (t : Int) : Prop where
  neg : t < 0 → (∀ v, ("time_of_trip", v) ∉ ps) ∨ ∃ v n, ("time_of_trip", v) ∈ ps ∧ stoiFull v = some n ∧ n < 0
  nonneg : 0 ≤ t → ∃ v, ("time_of_trip", v) ∈ ps ∧ stoiFull v = some t

theorem TimeInv.keep {t : Int} (I : TimeInv pre t) (hk : kv.1 ≠ "time_of_trip") : TimeInv (pre ++ [kv]) t :=
  ⟨fun h => (I.neg h).imp (fun a v hv => a v ((mem_snoc_of_ne hk).1 hv)) fun ⟨v, n, hv, r⟩ => ⟨v, n, (mem_snoc_of_ne hk).2 hv, r⟩,
   fun h => (I.nonneg h).imp fun _ r => ⟨(mem_snoc_of_ne hk).2 r.1, r.2⟩⟩

theorem TimeInv.read {n : Int} (hk : kv.1 = "time_of_trip") (hn : stoiFull kv.2 = some n) :
    TimeInv (pre ++ [kv]) (norm "time_of_trip" n) := by
  have hm : ("time_of_trip", kv.2) ∈ pre ++ [kv] := mem_snoc_key.2 (.inr ⟨hk, rfl⟩)
  simp only [norm, ↓reduceIte]
  split
  · exact ⟨fun _ => .inr ⟨kv.2, n, hm, hn, ‹_›⟩, fun h => by omega⟩
  · exact ⟨fun h => absurd h ‹_›, fun _ => ⟨kv.2, hm, hn⟩⟩

/-- what holds of the parameters once the pairs `ps` have been read without error -/
structure CommonInv (env : Env) (ps : List (String × String)) (c : Common) : Prop where
  scen : ScenInv env ps c.scenario
  time : TimeInv ps c.time
  bounds : Bounds c

theorem CommonInv.step {c c' : Common} (I : CommonInv env pre c) (h : commonStep env c kv = .ok c') :
    CommonInv env (pre ++ [kv]) c' := by
  rw [commonStep_eq] at h
  by_cases hk : kv.1 ∈ numericKeys
  · rw [if_pos hk] at h
    cases hn : stoiFull kv.2 with
    | none => rw [hn] at h; cases h
    | some n =>
      rw [hn] at h; cases h
      -- a numeric name is not `scenario_id`, and it sets the time only when it is `time_of_trip`
      refine ⟨I.scen.keep fun e => absurd (e ▸ hk) (by decide), ?_, I.bounds.set hk n⟩
      rw [Common.time_set]
      by_cases e : kv.1 = "time_of_trip"
      · rw [if_pos e, e]; exact .read e hn
      · rw [if_neg e]; exact I.time.keep e
  · rw [if_neg hk] at h; cases h
    -- any other name leaves the time alone, and sets the scenario only when it is `scenario_id`
    refine ⟨?_, I.time.keep fun e => hk (e ▸ by decide), I.bounds⟩
    rw [Common.scenario_other]
    by_cases e : kv.1 = "scenario_id"
    · rw [if_pos e]; exact I.scen.read e
    · rw [if_neg e]; exact I.scen.keep e

theorem commonLoop_inv {c : Common} (h : commonLoop env ps {} = .ok c) : CommonInv env ps c := by
  rw [commonLoop_eq] at h
  refine foldlM_ok_inv (CommonInv env) (fun _ _ _ _ => CommonInv.step) ps [] {} c ?_ h
  exact ⟨⟨fun _ _ hv => (List.not_mem_nil hv).elim, fun _ hs => nomatch hs⟩,
    ⟨fun _ => .inl fun _ => List.not_mem_nil, fun hp => absurd hp (by decide)⟩, default_bounds⟩

theorem commonLoop_error {c : Common} {e : PErr} (h : commonLoop env ps c = .error e) :
    e = .invalidNumerical ∧ Defect env ps .invalidNumerical := by
  rw [commonLoop_eq] at h
  obtain ⟨kv, hm, c1, h1⟩ := foldlM_error ps c e h
  rw [commonStep_eq] at h1
  split at h1
  · split at h1
    · cases h1; exact ⟨rfl, kv.1, kv.2, hm, ‹_›, ‹_›⟩
    · cases h1
  · cases h1

end

/-- `createCommonParameter` by its outcome -/
theorem createCommon_cases (env : Env) (ps : List (String × String)) :
    match createCommon env ps with
    | .error e => Defect env ps e ∧ (e = .invalidNumerical ∨ e = .missingScenario ∨ e = .emptyScenario ∨ e = .missingTime)
    | .ok c => commonLoop env ps {} = .ok c ∧ c.scenario = some false ∧ 0 ≤ c.time ∧
        (∃ v, ("time_of_trip", v) ∈ ps ∧ stoiFull v = some c.time) ∧
        (∃ v, ("scenario_id", v) ∈ ps ∧ env.scen v = some false) ∧ Bounds c := by
  unfold createCommon
  cases hl : commonLoop env ps {} with
  | error e =>
    obtain ⟨rfl, d⟩ := commonLoop_error hl
    exact ⟨d, .inl rfl⟩
  | ok c =>
    have I := commonLoop_inv hl
    simp only
    cases hs : c.scenario with
    | none => exact ⟨I.scen.absent hs, .inr (.inl rfl)⟩
    | some b =>
      cases b with
      | true => exact ⟨I.scen.present true hs, .inr (.inr (.inl rfl))⟩
      | false =>
        simp only
        by_cases ht : c.time < 0
        · rw [if_pos ht]; exact ⟨I.time.neg ht, .inr (.inr (.inr rfl))⟩
        · rw [if_neg ht]
          have ht : 0 ≤ c.time := by omega
          exact ⟨rfl, hs, ht, I.time.nonneg ht, I.scen.present false hs, I.bounds⟩

theorem createCommon_spec (env : Env) (ps : List (String × String)) :
    (∀ e, createCommon env ps = .error e → Defect env ps e) ∧
    (∀ c, createCommon env ps = .ok c → c.scenario = some false ∧ 0 ≤ c.time ∧
      (∃ v, ("time_of_trip", v) ∈ ps ∧ stoiFull v = some c.time) ∧
      (∃ v, ("scenario_id", v) ∈ ps ∧ env.scen v = some false) ∧ Bounds c) := by
  have := createCommon_cases env ps
  refine ⟨fun e h => ?_, fun c h => ?_⟩ <;> rw [h] at this
  · exact this.1
  · exact this.2

/-- a coordinate parameter `k` read into `field` by a loop, once the pairs `ps` have been read -/
structure CoordInv (env : Env) (k : String) (ps : List (String × String)) (field : Option String) : Prop where
  absent : field = none → ∀ v, (k, v) ∉ ps
  present : ∀ o, field = some o → (k, o) ∈ ps ∧ coordPair env o = true

section
variable {env : Env} {pre : List (String × String)} {kv : String × String}

theorem CoordInv.nil (env : Env) (k : String) : CoordInv env k [] none :=
  ⟨fun _ _ => List.not_mem_nil, fun _ h => nomatch h⟩

theorem CoordInv.keep {k : String} {field : Option String} (I : CoordInv env k pre field) (hk : kv.1 ≠ k) :
    CoordInv env k (pre ++ [kv]) field :=
  ⟨fun h v hv => I.absent h v ((mem_snoc_of_ne hk).1 hv),
   fun o h => ⟨(mem_snoc_of_ne hk).2 (I.present o h).1, (I.present o h).2⟩⟩

theorem CoordInv.store (hc : coordPair env kv.2 = true) : CoordInv env kv.1 (pre ++ [kv]) (some kv.2) :=
  ⟨(fun h => nomatch h), fun o h => by cases h; exact ⟨mem_snoc_key.2 (.inr ⟨rfl, rfl⟩), hc⟩⟩

theorem routeStep_ok {s s' : RouteSt}
    (I : CoordInv env "origin" pre s.origin ∧ CoordInv env "destination" pre s.destination) (h : routeStep env s kv = .ok s') :
    CoordInv env "origin" (pre ++ [kv]) s'.origin ∧ CoordInv env "destination" (pre ++ [kv]) s'.destination := by
  unfold routeStep at h
  by_cases ho : kv.1 = "origin"
  · rw [if_pos ho] at h
    split at h <;> cases h
    exact ⟨ho ▸ CoordInv.store ‹_›, I.2.keep (fun e => absurd (ho ▸ e) (by decide))⟩
  · rw [if_neg ho] at h
    by_cases hd : kv.1 = "destination"
    · rw [if_pos hd] at h
      split at h <;> cases h
      exact ⟨I.1.keep ho, hd ▸ CoordInv.store ‹_›⟩
    · rw [if_neg hd] at h
      have : s'.origin = s.origin ∧ s'.destination = s.destination := by
        repeat' split at h
        all_goals cases h; exact ⟨rfl, rfl⟩
      rw [this.1, this.2]
      exact ⟨I.1.keep ho, I.2.keep hd⟩

theorem routeStep_error {s : RouteSt} {e : PErr} (h : routeStep env s kv = .error e) :
    coordPair env kv.2 = false ∧ ((kv.1 = "origin" ∧ e = .invalidOrigin) ∨ (kv.1 = "destination" ∧ e = .invalidDestination)) := by
  unfold routeStep at h
  repeat' split at h
  all_goals cases h
  · exact ⟨Bool.eq_false_iff.2 ‹_›, .inl ⟨‹_›, rfl⟩⟩
  · exact ⟨Bool.eq_false_iff.2 ‹_›, .inr ⟨‹_›, rfl⟩⟩

theorem placeStep_ok {p p' : Option String}
    (I : CoordInv env "place" pre p) (h : placeStep env p kv = .ok p') : CoordInv env "place" (pre ++ [kv]) p' := by
  unfold placeStep at h
  by_cases hk : kv.1 = "place"
  · rw [if_pos hk] at h
    split at h <;> cases h
    exact hk ▸ CoordInv.store ‹_›
  · rw [if_neg hk] at h; cases h
    exact I.keep hk

end

/-- `createRouteODParameter` by its outcome -/
theorem createRoute_cases (env : Env) (ps : List (String × String)) :
    match createRoute env ps with
    | .error e => Defect env ps e ∧ e ≠ .missingPlace ∧ e ≠ .invalidPlace
    | .ok (_, c) => createCommon env ps = .ok c ∧
        (∃ o, ("origin", o) ∈ ps ∧ coordPair env o = true) ∧ (∃ o, ("destination", o) ∈ ps ∧ coordPair env o = true) := by
  unfold createRoute
  rw [routeLoop_eq]
  cases hl : ps.foldlM (routeStep env) {} with
  | error e =>
    obtain ⟨kv, hm, s1, h1⟩ := foldlM_error ps _ e hl
    obtain ⟨hc, ⟨hk, rfl⟩ | ⟨hk, rfl⟩⟩ := routeStep_error h1 <;> exact ⟨⟨kv.2, hk ▸ hm, hc⟩, by decide, by decide⟩
  | ok s =>
    obtain ⟨Io, Id⟩ := foldlM_ok_inv (fun pre (s : RouteSt) => CoordInv env "origin" pre s.origin ∧ CoordInv env "destination" pre s.destination)
      (fun _ _ _ _ => routeStep_ok) ps [] {} s ⟨.nil env _, .nil env _⟩ hl
    simp only
    cases ho : s.origin with
    | none => exact ⟨Io.absent ho, by decide, by decide⟩
    | some o =>
      cases hd : s.destination with
      | none => exact ⟨Id.absent hd, by decide, by decide⟩
      | some d =>
        simp only [Option.isNone_some, Bool.false_eq_true, if_false]
        have hc := createCommon_cases env ps
        cases hcc : createCommon env ps with
        | error e =>
          rw [hcc] at hc
          refine ⟨hc.1, ?_, ?_⟩ <;> (rintro rfl; rcases hc.2 with h | h | h | h <;> cases h)
        | ok c => exact ⟨rfl, ⟨o, Io.present o ho⟩, ⟨d, Id.present d hd⟩⟩

/-- `createAccessibilityParameter` by its outcome -/
theorem createAccess_cases (env : Env) (ps : List (String × String)) :
    match createAccess env ps with
    | .error e => Defect env ps e ∧ e ≠ .missingOrigin ∧ e ≠ .missingDestination ∧ e ≠ .invalidOrigin ∧ e ≠ .invalidDestination
    | .ok (p, c) => createCommon env ps = .ok c ∧ ("place", p) ∈ ps ∧ coordPair env p = true := by
  unfold createAccess
  rw [placeLoop_eq]
  cases hl : ps.foldlM (placeStep env) none with
  | error e =>
    obtain ⟨kv, hm, p1, h1⟩ := foldlM_error ps _ e hl
    unfold placeStep at h1
    repeat' split at h1
    all_goals cases h1
    exact ⟨⟨kv.2, ‹kv.1 = _› ▸ hm, Bool.eq_false_iff.2 ‹_›⟩, by decide, by decide, by decide, by decide⟩
  | ok p =>
    have I := foldlM_ok_inv (CoordInv env "place") (fun _ _ _ _ => placeStep_ok) ps [] none p (.nil env _) hl
    cases p with
    | none => exact ⟨I.absent rfl, by decide, by decide, by decide, by decide⟩
    | some o =>
      simp only
      have hc := createCommon_cases env ps
      cases hcc : createCommon env ps with
      | error e =>
        rw [hcc] at hc
        refine ⟨hc.1, ?_, ?_, ?_, ?_⟩ <;> (rintro rfl; rcases hc.2 with h | h | h | h <;> cases h)
      | ok c => exact ⟨rfl, I.present o rfl⟩

/-- one GET by its outcome (`fast` is the code of the data status, empty when the data are READY) -/
theorem handle_cases (env : Env) (status : String) (acc : Bool) (ps : List (String × String)) :
    let fast := (Gen.dataStatusCodes.lookup status).getD "PARAM_ERROR_UNKNOWN"
    match handle env status acc ps with
    | .dataError code => fast ≠ "" ∧ code = fast
    | .queryError code => fast = "" ∧ ∃ e : PErr, code = e.code ∧ Defect env ps e ∧
        (acc = true → e ≠ .missingOrigin ∧ e ≠ .missingDestination ∧ e ≠ .invalidOrigin ∧ e ≠ .invalidDestination) ∧
        (acc = false → e ≠ .missingPlace ∧ e ≠ .invalidPlace)
    | .calc c _ => fast = "" ∧ createCommon env ps = .ok c ∧
        (acc = true → ∃ p, ("place", p) ∈ ps ∧ coordPair env p = true) ∧
        (acc = false → (∃ o, ("origin", o) ∈ ps ∧ coordPair env o = true) ∧ ∃ o, ("destination", o) ∈ ps ∧ coordPair env o = true) := by
  unfold handle
  simp only
  by_cases hf : (Gen.dataStatusCodes.lookup status).getD "PARAM_ERROR_UNKNOWN" = ""
  · rw [if_neg (not_not_intro hf)]
    cases acc with
    | true =>
      simp only [if_true]
      have hc := createAccess_cases env ps
      cases hcc : createAccess env ps with
      | error e => rw [hcc] at hc; exact ⟨hf, e, rfl, hc.1, fun _ => hc.2, fun h => nomatch h⟩
      | ok r => rw [hcc] at hc; exact ⟨hf, hc.1, fun _ => ⟨r.1, hc.2⟩, fun h => nomatch h⟩
    | false =>
      simp only [Bool.false_eq_true, if_false]
      have hc := createRoute_cases env ps
      cases hcc : createRoute env ps with
      | error e => rw [hcc] at hc; exact ⟨hf, e, rfl, hc.1, (fun h => nomatch h), fun _ => hc.2⟩
      | ok r => rw [hcc] at hc; exact ⟨hf, hc.1, (fun h => nomatch h), fun _ => hc.2⟩
  · rw [if_pos hf]; exact ⟨hf, rfl⟩

/-- **C18**: a 400 names a defect that is present in the request — for every parameter list in every order,
    every coordinate parser and every scenario table; origin / destination errors only on /v2/route|summary, place
    errors only on /v2/accessibility. -/
theorem C18_defect_present (env : Env) (status : String) (acc : Bool) (ps : List (String × String)) (code : String)
    (h : handle env status acc ps = .queryError code) :
    ∃ e : PErr, code = e.code ∧ Defect env ps e ∧
      (acc = true → e ≠ .missingOrigin ∧ e ≠ .missingDestination ∧ e ≠ .invalidOrigin ∧ e ≠ .invalidDestination) ∧
      (acc = false → e ≠ .missingPlace ∧ e ≠ .invalidPlace) := by
  have := handle_cases env status acc ps
  rw [h] at this
  exact this.2

/-- **C18**: the errorCode of a 400 is one of the documented ones -/
theorem C18_query_error_documented (env : Env) (status : String) (acc : Bool) (ps : List (String × String)) (code : String)
    (h : handle env status acc ps = .queryError code) : code ∈ Gen.documentedCodes := by
  obtain ⟨e, rfl, _⟩ := C18_defect_present env status acc ps code h
  exact PErr_code_documented e

/-- **C18**: on data that is not READY every request, whatever its parameters, is answered data_error with the
    code of the status; on READY data no request is -/
theorem C18_not_ready_data_error (env : Env) (status : String) (acc : Bool) (ps : List (String × String)) :
    ((Gen.dataStatusCodes.lookup status).getD "PARAM_ERROR_UNKNOWN" ≠ "" →
      handle env status acc ps = .dataError ((Gen.dataStatusCodes.lookup status).getD "PARAM_ERROR_UNKNOWN")) ∧
    (∀ code, handle env "READY" acc ps ≠ .dataError code) := by
  refine ⟨fun h => ?_, fun code h => ?_⟩
  · unfold handle; simp only [h, ne_eq, not_false_eq_true, if_true]
  · have := handle_cases env "READY" acc ps
    rw [h] at this
    exact this.1 (by decide)

/-- **C18**: when the calculation runs, its parameters meet the contract: the scenario named exists and has
    services, the time of trip is a non-negative integer written in the request, every limit is normalised
    (minimum waiting ≥ 0; each maximum > 0 — "no limit" is MAX_INT —; first-waiting cap > 0 or disabled = -1),
    and the place / origin and destination are coordinates of the request that parse -/
theorem C18_calc_meets_contract (env : Env) (status : String) (acc : Bool) (ps : List (String × String)) (c : Common) (alt : Bool)
    (h : handle env status acc ps = .calc c alt) :
    c.scenario = some false ∧ 0 ≤ c.time ∧ (∃ v, ("time_of_trip", v) ∈ ps ∧ stoiFull v = some c.time) ∧
    (∃ v, ("scenario_id", v) ∈ ps ∧ env.scen v = some false) ∧ Bounds c ∧
    (acc = true → ∃ p, ("place", p) ∈ ps ∧ coordPair env p = true) ∧
    (acc = false → (∃ o, ("origin", o) ∈ ps ∧ coordPair env o = true) ∧ ∃ o, ("destination", o) ∈ ps ∧ coordPair env o = true) := by
  have := handle_cases env status acc ps
  rw [h] at this
  obtain ⟨b1, b2, b3, b4, b5⟩ := (createCommon_spec env ps).2 c this.2.1
  exact ⟨b1, b2, b3, b4, b5, this.2.2⟩

theorem commonStep_get {env : Env} {c c' : Common} {kv : String × String} (h : commonStep env c kv = .ok c') (k : String) :
    c'.get k = if kv.1 ∈ numericKeys ∧ k = kv.1 then norm k ((stoiFull kv.2).getD 0) else c.get k := by
  rw [commonStep_eq] at h
  split at h
  · rename_i hk
    split at h <;> cases h
    rename_i n hn
    rw [Common.get_set hk, hn]
    by_cases e : k = kv.1
    · rw [if_pos e, if_pos ⟨hk, e⟩, e]; rfl
    · rw [if_neg e, if_neg fun x => e x.2]
  · cases h
    rw [Common.get_other, if_neg fun x => ‹¬ _› x.1]

/-- each numeric parameter has the normalised value of the LAST pair that names it -/
theorem commonLoop_get {env : Env} {ps : List (String × String)} {c0 c : Common} (h : commonLoop env ps c0 = .ok c)
    {k : String} (hk : k ∈ numericKeys) :
    c.get k = match ps.reverse.lookup k with
      | some v => norm k ((stoiFull v).getD 0)
      | none => c0.get k := by
  rw [commonLoop_eq] at h
  refine foldlM_ok_inv (fun pre (c : Common) => c.get k = match pre.reverse.lookup k with
      | some v => norm k ((stoiFull v).getD 0)
      | none => c0.get k) ?_ ps [] c0 c rfl h
  intro pre c1 kv c2 ih hs
  rw [commonStep_get hs, List.reverse_append, List.reverse_singleton, List.singleton_append, List.lookup_cons]
  by_cases e : k = kv.1
  · rw [if_pos ⟨e ▸ hk, e⟩, beq_iff_eq.2 e]
  · rw [if_neg fun x => e x.2, beq_eq_false_iff_ne.2 e]; exact ih

theorem lookup_reverse {α β : Type} [BEq α] [LawfulBEq α] (k : α) : ∀ {l : List (α × β)}, (l.map (·.1)).Nodup →
    l.reverse.lookup k = l.lookup k
  | [], _ => rfl
  | kv :: l, hnd => by
    rw [List.map_cons, List.nodup_cons] at hnd
    rw [List.reverse_cons, List.lookup_append, lookup_reverse k hnd.2]
    rw [List.lookup_cons, List.lookup_cons, List.lookup_nil]
    cases e : k == kv.1 with
    | false => exact Option.or_none
    | true =>
      have : l.lookup k = none := List.lookup_eq_none_iff.2 fun p hp => by
        rw [bne_iff_ne]; intro hkk
        exact hnd.1 (List.mem_map.2 ⟨p, hp, by rw [← hkk, eq_of_beq e]⟩)
      rw [this]; rfl

/-- **C18 (defaults, "non-positive = no limit")**: in a request without a duplicated key, every numeric parameter of the
    calculation is the documented default when the parameter is omitted and the normalised value of the request when it is
    given — for every order of the pairs. -/
theorem C18_unique_keys_values (env : Env) (status : String) (acc : Bool) (ps : List (String × String)) (c : Common) (alt : Bool)
    (hnd : (ps.map (·.1)).Nodup) (h : handle env status acc ps = .calc c alt) :
    ∀ k ∈ numericKeys, c.get k = match ps.lookup k with
      | some v => norm k ((stoiFull v).getD 0)
      | none => ({} : Common).get k := by
  intro k hk
  have hc := handle_cases env status acc ps
  rw [h] at hc
  have hl := createCommon_cases env ps
  rw [hc.2.1] at hl
  rw [← lookup_reverse k hnd]
  exact commonLoop_get hl.1 hk

theorem C18_default_values :
    ({} : Common).get "min_waiting_time" = 180 ∧ ({} : Common).get "max_travel_time" = MAX_INT ∧ ({} : Common).get "max_access_travel_time" = 1200 ∧
    ({} : Common).get "max_egress_travel_time" = 1200 ∧ ({} : Common).get "max_transfer_travel_time" = 1200 ∧
    ({} : Common).get "max_first_waiting_time" = 1800 := by decide

/-- `std::stoi` + full consumption on the corner cases: tests of the model's `stoiFull` (the same strings go to the
    real server on every run of the C18 check) -/
theorem C18_stoi_examples :
    stoiFull "12" = some 12 ∧ stoiFull "-7" = some (-7) ∧ stoiFull "+5" = some 5 ∧ stoiFull "  42" = some 42 ∧
    stoiFull "12abc" = none ∧ stoiFull "" = none ∧ stoiFull "-" = none ∧ stoiFull "1 " = none ∧ stoiFull "1.5" = none ∧
    stoiFull "2147483647" = some 2147483647 ∧ stoiFull "2147483648" = none ∧ stoiFull "-2147483648" = some (-2147483648) ∧
    stoiFull "-2147483649" = none ∧ stoiFull "0x10" = none ∧ stoiFull "007" = some 7 := by decide

/-- non-vacuity: requests of each outcome -/
theorem C18_params_examples :
    let env : Env := ⟨fun s => s = "-73,1.5" || s = "1.5,-73", fun s => if s = "S" then some false else if s = "E" then some true else none⟩
    handle env "READY" false [("origin", "-73,1.5"), ("destination", "1.5,-73"), ("scenario_id", "S"), ("time_of_trip", "36000")]
      = .calc { time := 36000, scenario := some false } false ∧
    handle env "READY" false [("max_travel_time", "0"), ("origin", "-73,1.5"), ("time_type", "1"), ("destination", "1.5,-73"), ("scenario_id", "S"),
        ("time_of_trip", "36000"), ("max_first_waiting_time", "-4"), ("min_waiting_time", "-1"), ("alternatives", "true")]
      = .calc { time := 36000, scenario := some false, maxTotal := MAX_INT, maxFirstWait := -1, minWait := 0, forward := false } true ∧
    handle env "READY" false [("origin", "-73,1.5"), ("destination", "1.5"), ("scenario_id", "S"), ("time_of_trip", "1")] = .queryError "INVALID_DESTINATION" ∧
    handle env "READY" true [("place", "-73,1.5"), ("scenario_id", "E"), ("time_of_trip", "1")] = .queryError "EMPTY_SCENARIO" ∧
    handle env "READY" true [("place", "-73,1.5"), ("scenario_id", "S"), ("time_of_trip", "1x")] = .queryError "INVALID_NUMERICAL_DATA" ∧
    handle env "READY" true [("scenario_id", "S"), ("time_of_trip", "1")] = .queryError "MISSING_PARAM_PLACE" ∧
    handle env "NO_LINES" true [("whatever", "x")] = .dataError "MISSING_DATA_LINES" := by
  decide

/-- the names, the numeric ones, the order of the checks after each loop and the shape of `getIntegerValue` are those the
    translator reads from the three parameter factories on every run -/
theorem C18_params_source :
    Gen.commonKeys = ["time_of_trip", "time_type", "scenario_id", "min_waiting_time", "max_travel_time", "max_access_travel_time",
      "max_egress_travel_time", "max_transfer_travel_time", "max_first_waiting_time"] ∧
    Gen.commonNumericKeys = numericKeys ∧
    Gen.commonThrows = [PErr.missingScenario.typeName, PErr.emptyScenario.typeName, PErr.missingTime.typeName] ∧
    Gen.routeKeys = ["origin", "destination", "alternatives"] ∧
    Gen.routeThrows = [PErr.invalidOrigin.typeName, PErr.invalidOrigin.typeName, PErr.invalidDestination.typeName, PErr.invalidDestination.typeName,
      PErr.missingOrigin.typeName, PErr.missingDestination.typeName] ∧
    Gen.accessKeys = ["place"] ∧ Gen.accessThrows = [PErr.invalidPlace.typeName, PErr.invalidPlace.typeName, PErr.missingPlace.typeName] ∧
    Gen.integerValueIsFullStoi = true := ⟨rfl, rfl, rfl, rfl, rfl, rfl, rfl, rfl⟩

end Tr.Par
