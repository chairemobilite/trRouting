/-
  Props/C12Window — the range conditions of the `C12_full_*` theorems, derived from a plain description of the data: every scheduled
  time of the data lies in a window `[lo, hi]`, footpaths take at most `W`, router walks between 0 and `A`, minimum waiting times at
  most `M`, and the window starts at least `W + M + A` after 0:00 on both sides of the shift (so that no value a scan compares drops
  below 0) and ends far below the `MAX_INT` sentinel.
-/
import TrVerif.Props.C12FullAlt
namespace Tr

/-- a plain description of data and request for which the shift by `k` keeps every compared clock value clear of both sentinels -/
structure Window (ds : Dataset) (p : Params) (k lo hi W A M : Int) : Prop where
  conns : ∀ c ∈ ds.conns, lo ≤ c.dep ∧ c.dep ≤ hi ∧ lo ≤ c.arr ∧ c.arr ≤ hi ∧ (c.minWait = -1 ∨ (0 ≤ c.minWait ∧ c.minWait ≤ M))
  foot : ∀ f ∈ ds.foot, f.time ≤ W
  hW : 0 ≤ W
  access : ∀ a ∈ ds.access, 0 ≤ a.time ∧ a.time ≤ A
  egress : ∀ g ∈ ds.egress, 0 ≤ g.time ∧ g.time ≤ A
  hA : 0 ≤ A
  mw : 0 ≤ p.minWait ∧ p.minWait ≤ M
  early : W + M + A ≤ lo ∧ W + M + A ≤ lo + k
  late : hi + W + A < MAX_INT ∧ hi + W + A + k < MAX_INT
  time : A ≤ p.time ∧ A ≤ p.time + k
  timeF : p.forward = true → p.time ≤ hi + W

theorem conn_bounds {ds : Dataset} {p : Params} {k lo hi W A M : Int} (w : Window ds p k lo hi W A M) (c : Conn) (hc : c ∈ ds.conns) :
    lo ≤ c.dep ∧ c.dep ≤ hi ∧ lo ≤ c.arr ∧ c.arr ≤ hi ∧ 0 ≤ c.effWait p.minWait ∧ c.effWait p.minWait ≤ M := by
  obtain ⟨h1, h2, h3, h4, h⟩ := w.conns c hc
  refine ⟨h1, h2, h3, h4, ?_⟩
  unfold Conn.effWait
  have := w.mw
  split <;> rcases h with h | h <;> omega

theorem window_rev {ds : Dataset} {p : Params} {k lo hi W A M : Int} (w : Window ds p k lo hi W A M) :
    RouteRevRange ds p k (if 0 ≤ k then 0 else -k) (hi + W + A) W := by
  have he := w.early; have hl := w.late; have ht := w.time; have hW := w.hW; have hA := w.hA
  have hM : 0 ≤ M := by have := w.mw; omega
  refine ⟨by split <;> omega, by split <;> omega, hl.2, hl.1, hW, rfootOf_time_le ds W w.foot, ?_, ?_, ?_⟩
  · intro c hc
    obtain ⟨c1, c2, c3, c4, e1, e2⟩ := conn_bounds w c (mem_connSetOf_rev.mp hc).1
    constructor <;> split <;> omega
  · intro e he'
    have := w.egress e he'
    split <;> omega
  · intro e he' a ha'
    obtain ⟨c1, c2, c3, c4, e1, e2⟩ := conn_bounds w e (mem_connSetOf_rev.mp he').1
    have := w.access a ha'
    constructor
    · split <;> omega
    · omega

theorem window_fwd {ds : Dataset} {p : Params} {k lo hi W A M : Int} (w : Window ds p k lo hi W A M) (hf : p.forward = true) :
    RouteFwdRange ds p k (if 0 ≤ k then 0 else -k) (hi + W + A) W := by
  have he := w.early; have hl := w.late; have ht := w.time; have hW := w.hW; have hA := w.hA
  have hM : 0 ≤ M := by have := w.mw; omega
  have R := window_rev w
  have htf := w.timeF hf
  refine ⟨R.hL, R.hLk, R.hB, R.hB0, hW, by omega, by omega, footOf_time_le ds W w.foot, R.rfoot, ?_, R.conns, ?_, ?_, ?_, R.access⟩
  · intro c hc
    obtain ⟨c1, c2, c3, c4, c5⟩ := w.conns c (mem_connSetOf_fwd.mp hc).1
    refine ⟨by omega, by omega, by omega, ?_⟩
    rcases c5 with h | h
    · exact Or.inr h
    · exact Or.inl h.1
  · intro e he'
    have := w.access e he'
    omega
  · intro x hx g hg
    obtain ⟨c1, c2, c3, c4, _⟩ := w.conns x (mem_connSetOf_fwd.mp hx).1
    have := w.egress g hg
    constructor
    · split <;> omega
    · omega
  · intro x hx g hg e he'
    obtain ⟨c1, c2, c3, c4, _⟩ := w.conns x (mem_connSetOf_fwd.mp hx).1
    have := w.egress g hg
    have := w.egress e he'
    split <;> omega

/-- **C12 for data in a window**: the route calculation without the hour index (`calculateSingle0`; equal to `calculateSingle`
    for requests inside [0, 32 h), `C12_index_transparent_route`) gives, for either time type, on the shifted problem the shifted
    answer (status, reason, every clock time moved by `k`, everything else equal). -/
theorem C12_window_route (ds : Dataset) (hwf : WFData ds) (p : Params) (k lo hi W A M : Int) (hal : TripsAligned ds)
    (hmt : 0 ≤ p.maxTransfer) (w : Window ds p k lo hi W A M) :
    calculateSingle0 (shiftDs k ds) (shiftP k p) = shRouteOut k (calculateSingle0 ds p) := by
  cases hf : p.forward with
  | true => exact C12_full_route_departure ds hwf p k _ _ W hal hf w.mw.1 hmt (window_fwd w hf)
  | false => exact C12_full_route_arrival ds hwf p k _ _ W hal hf w.mw.1 hmt (window_rev w)

/-- **C12 for data in a window, alternatives queries** (the entry point with the hour index, request inside [0, 32 h) on both
    sides): the list of alternatives of the shifted problem is the shifted list, after the same number of calculations -/
theorem C12_window_alternatives (ds : Dataset) (hwf : WFData ds) (p : Params) (k lo hi W A M : Int) (hal : TripsAligned ds)
    (hmt : 0 ≤ p.maxTransfer) (w : Window ds p k lo hi W A M)
    (ht : p.time < (HOUR_END : Int) * 3600) (ht' : p.time + k < (HOUR_END : Int) * 3600) :
    alternativesRouting (shiftDs k ds) (shiftP k p) = shAltOut k (alternativesRouting ds p) := by
  have h1 := w.time; have h2 := w.hA
  have R : (p.forward = true ∧ RouteFwdRange ds p k (if 0 ≤ k then 0 else -k) (hi + W + A) W) ∨
      (p.forward = false ∧ RouteRevRange ds p k (if 0 ≤ k then 0 else -k) (hi + W + A) W) := by
    cases hf : p.forward with
    | true => exact Or.inl ⟨rfl, window_fwd w hf⟩
    | false => exact Or.inr ⟨rfl, window_rev w⟩
  exact C12_full_alternatives ds hwf p k _ _ W hal w.mw.1 hmt R (by omega) ht (by omega) ht'
    (fun a ha => (w.access a ha).1) (fun g hg => (w.egress g hg).1)

/-- **C12 for data in a window, accessibility**: both accessibility calculations without the hour index give on the shifted
    problem the shifted map (here for ANY dataset with aligned trips: no well-formedness is needed) -/
theorem C12_window_accessibility (ds : Dataset) (p : Params) (k lo hi W A M : Int) (hal : TripsAligned ds)
    (w : Window ds p k lo hi W A M) :
    calculateAllNodes0 (shiftDs k ds) (shiftP k p) = shAccOutcome k (calculateAllNodes0 ds p) := by
  have R := window_rev w
  cases hf : p.forward with
  | true =>
    have F := window_fwd w hf
    exact C12_full_accessibility_departure ds p k _ W hal hf ⟨F.hB, F.hB0, F.foot, w.mw.1, F.connsF, F.access0⟩
  | false =>
    exact C12_full_accessibility_arrival ds p k _ W hal hf ⟨R.hL, R.hLk, R.hW, R.rfoot, w.mw.1, R.conns, R.egress⟩

theorem getD_mono_of_pairwise {l : List Int} (h : l.Pairwise (· ≤ ·)) {i j : Nat} (hij : i ≤ j) (hj : j < l.length) :
    l.getD i 0 ≤ l.getD j 0 := by
  rcases Nat.lt_or_eq_of_le hij with h' | rfl
  · simp only [List.getD_eq_getElem?_getD, List.getElem?_eq_getElem hj, List.getElem?_eq_getElem (Nat.lt_trans h' hj),
      Option.getD_some]
    exact List.pairwise_iff_getElem.mp h i j _ _ h'
  · exact Int.le_refl _

theorem wfData_of_sorted_trips {ds : Dataset} (ht : ∀ tr ∈ ds.trips, tr.dep = tr.arr ∧ tr.arr.Pairwise (· ≤ ·))
    (hid : (ds.trips.map (·.id)).Nodup) (hf : ∀ f ∈ ds.foot, 0 ≤ f.time)
    (hs : ∀ c ∈ ds.conns, ∃ d, (⟨c.depStop, c.depStop, 0, d⟩ : Foot) ∈ ds.foot) : WFData ds ∧ TripsAligned ds := by
  have hm : ∀ tr ∈ ds.trips, ∀ i j, i ≤ j → j < tr.arr.length → tr.arr.getD i 0 ≤ tr.arr.getD j 0 :=
    fun tr htr i j hij hj => getD_mono_of_pairwise (ht tr htr).2 hij hj
  refine ⟨⟨⟨hid, hm⟩, fun tr htr => ?_, fun tr htr i hi => ?_, hf, hs⟩, fun tr htr => by rw [(ht tr htr).1]⟩
  · rw [(ht tr htr).1]; exact hm tr htr
  · rw [(ht tr htr).1]; exact hm tr htr i (i + 1) (Nat.le_succ i) hi

/-- non-vacuity of `Window` -/
theorem nv_window : Window nvDs' nvFwd' 1700 1000 1300 60 200 60 ∧ Window nvDs' nvRev' (-600) 1000 1300 60 200 60 := by
  have hc : ∀ c ∈ nvDs'.conns, (1000 : Int) ≤ c.dep ∧ c.dep ≤ 1300 ∧ 1000 ≤ c.arr ∧ c.arr ≤ 1300 ∧ (c.minWait = -1 ∨ (0 ≤ c.minWait ∧ c.minWait ≤ 60)) := by decide
  exact ⟨⟨hc, by decide, by decide, by decide, by decide, by decide, by decide, by decide, by decide, by decide, by decide⟩,
    ⟨hc, by decide, by decide, by decide, by decide, by decide, by decide, by decide, by decide, by decide, by decide⟩⟩

def nvDs2 : Dataset :=
  { nStops := 3, nServices := 1,
    foot := [⟨0, 0, 0, 0⟩, ⟨1, 1, 0, 0⟩, ⟨2, 2, 0, 0⟩, ⟨1, 2, 60, 50⟩],
    lines := [⟨0, 0⟩, ⟨0, 0⟩], paths := [⟨0, [0, 1], [10]⟩, ⟨1, [0, 2, 1], [10, 10]⟩],
    trips := [⟨5, 0, 0, [1000, 1300], [1000, 1300], [true, true], [true, true]⟩,
              ⟨6, 1, 0, [1100, 1400, 1700], [1100, 1400, 1700], [true, true, true], [true, true, true]⟩],
    scenarios := [{ services := [0], onlyLines := [], exceptLines := [], onlyAgencies := [], exceptAgencies := [], onlyModes := [], exceptModes := [] }],
    access := [⟨0, 100, 80⟩], egress := [⟨1, 200, 150⟩] }

theorem nv2_trips (tr : TripRec) (h : tr ∈ nvDs2.trips) : tr.dep = tr.arr ∧ tr.arr.Pairwise (· ≤ ·) := by
  simp only [nvDs2, List.mem_cons, List.mem_nil_iff, or_false] at h
  rcases h with rfl | rfl <;> exact ⟨rfl, by decide⟩

theorem nv2_wf : WFData nvDs2 ∧ TripsAligned nvDs2 :=
  have hsf : ∀ c ∈ nvDs2.conns, (⟨c.depStop, c.depStop, 0, 0⟩ : Foot) ∈ nvDs2.foot := by decide
  wfData_of_sorted_trips nv2_trips (by decide) (by decide) fun c hc => ⟨0, hsf c hc⟩

/-- non-vacuity of the hypotheses of `C12_window_alternatives` on a dataset with two lines, where the alternatives search iterates
    (two alternatives after four calculations; that is evaluated by the compiled driver in the C12 metamorphic run, not by the
    kernel: sixteen calculations are too much for `decide`); both time types, offsets across an hour mark in both directions -/
theorem nv_window_alternatives2 :
    WFData nvDs2 ∧ TripsAligned nvDs2 ∧ Window nvDs2 nvFwd' 1700 1000 1700 60 200 60 ∧ Window nvDs2 nvRev' (-600) 1000 1700 60 200 60 := by
  have hc : ∀ c ∈ nvDs2.conns, (1000 : Int) ≤ c.dep ∧ c.dep ≤ 1700 ∧ 1000 ≤ c.arr ∧ c.arr ≤ 1700 ∧ (c.minWait = -1 ∨ (0 ≤ c.minWait ∧ c.minWait ≤ 60)) := by decide
  exact ⟨nv2_wf.1, nv2_wf.2,
    ⟨hc, by decide, by decide, by decide, by decide, by decide, by decide, by decide, by decide, by decide, by decide⟩,
    ⟨hc, by decide, by decide, by decide, by decide, by decide, by decide, by decide, by decide, by decide, by decide⟩⟩

end Tr
