/-
  Property C10 — alternatives: first is the plain answer, at most 50, counted.
  Proved here (for ALL datasets and queries): clauses (a) the alternatives answer fails exactly
  when the plain answer fails, with the same reason; (b) `routes[0]` is the plain answer;
  (f) at most 50 routes and `totalRoutesCalculated >= |routes|`; and the loop invariant behind
  (d): every returned route boards a multiset of lines no other returned route boards.
  Clauses (c) and (e) follow from C01/C02/C06 resp. C03/C04 applied to each recalculation
  (`Props/C10e.lean`).  `altLoop_invariant` is the one induction over the loop.
-/
import TrVerif.Model.Calc
namespace Tr

structure AltInv (ds : Dataset) (r0 : Route) (rs : List Route) (fl : List (List Nat)) (s c : Nat) : Prop where
  head : rs.head? = some r0
  len : rs.length + 1 = s
  cap : rs.length ≤ 50
  count : s ≤ c
  found : fl = rs.map fun r => sortNat (routeLines ds r)
  nodup : fl.Nodup

theorem addCombos_fields (combination : List Nat) : ∀ (l : List (List Nat)) (st : AltState),
    (addCombos combination st l).routes = st.routes ∧ (addCombos combination st l).seq = st.seq ∧
    (addCombos combination st l).count = st.count ∧ (addCombos combination st l).found = st.found := by
  intro l
  induction l with
  | nil => intro st; simp [addCombos]
  | cons nc rest ih =>
    intro st
    simp only [addCombos]
    split
    · exact ih st
    · have := ih { st with allComb := if (st.failed.any fun fc => fc.all fun l => (sortNat (nc ++ combination)).contains l) then st.allComb else st.allComb ++ [sortNat (nc ++ combination)],
                           calculated := st.calculated ++ [sortNat (nc ++ combination)] }
      simpa using this

/-- The loop changes `routes`, `found`, `seq` and `count` in two ways only: a calculation that adds no route is
    counted (`hcount`); a recalculation whose route boards a line set not yet found appends the route and its line
    set, while the sequence number is below the cap (`hnew`). -/
theorem altLoop_invariant (I : List Route → List (List Nat) → Nat → Nat → Prop)
    (ds : Dataset) (cs : ConnSet) (pAlt : Params) (base : List Nat) (a e : List NTD)
    (hcount : ∀ rs f s c, I rs f s c → I rs f s (c + 1))
    (hnew : ∀ rs f s c comb r, I rs f s c → s - 1 < 50 →
      calculateSingleWith ds cs { pAlt with exceptLines := base ++ comb } a e = .ok r →
      sortNat (routeLines ds r) ∉ f → I (rs ++ [r]) (f ++ [sortNat (routeLines ds r)]) (s + 1) (c + 1)) :
    ∀ (fuel i : Nat) (st st' : AltState), I st.routes st.found st.seq st.count →
      altLoop ds cs pAlt base a e fuel i st = .ok st' → I st'.routes st'.found st'.seq st'.count := by
  intro fuel
  induction fuel with
  | zero => intro i st st' h heq; simp [altLoop] at heq; rw [← heq]; exact h
  | succ fuel ih =>
    intro i st st' h heq
    simp only [altLoop] at heq
    split at heq
    · simp at heq; rw [← heq]; exact h
    · rename_i combination _
      split at heq
      · rename_i hcond
        split at heq
        · simp at heq
        · exact ih _ _ _ (hcount _ _ _ _ h) heq
        · rename_i r hr
          split at heq
          · rename_i hfl
            refine ih _ _ _ ?_ heq
            obtain ⟨f1, f2, f3, f4⟩ := addCombos_fields combination (allCombos (sortNat (routeLines ds r)))
              { st with routes := st.routes ++ [r], found := st.found ++ [sortNat (routeLines ds r)] }
            dsimp only at f1 f2 f3 f4 ⊢
            rw [f1, f2, f3, f4]
            exact hnew _ _ _ _ combination r h hcond.2 hr (by simpa using hfl.2)
          · exact ih _ _ _ (hcount _ _ _ _ h) heq
      · exact ih _ _ _ h heq

theorem AltInv.snoc {ds : Dataset} {r0 r : Route} {rs : List Route} {f : List (List Nat)} {s c : Nat}
    (h : AltInv ds r0 rs f s c) (hs : s - 1 < 50) (hr : sortNat (routeLines ds r) ∉ f) :
    AltInv ds r0 (rs ++ [r]) (f ++ [sortNat (routeLines ds r)]) (s + 1) (c + 1) where
  head := by
    have := h.head
    cases rs with
    | nil => simp at this
    | cons x xs => simpa using this
  len := by have := h.len; simp; omega
  cap := by have := h.len; simp; omega
  count := by have := h.count; omega
  found := by rw [h.found]; simp
  nodup := List.nodup_append.mpr ⟨h.nodup, by simp, fun x hx y hy hxy => hr (List.mem_singleton.mp hy ▸ hxy ▸ hx)⟩

theorem altLoop_not_noRouting (ds : Dataset) (cs : ConnSet) (pAlt : Params) (base : List Nat) (a e : List NTD) :
    ∀ (fuel i : Nat) (st : AltState) (r : Reason), altLoop ds cs pAlt base a e fuel i st ≠ .noRouting r := by
  intro fuel
  induction fuel with
  | zero => intro i st r; simp [altLoop]
  | succ fuel ih =>
    intro i st r
    simp only [altLoop]
    split
    · simp
    · split
      · split
        · simp
        · exact ih _ _ _
        · split
          · exact ih _ _ _
          · exact ih _ _ _
      · exact ih _ _ _

/-- **C10 (a, b, d, f).** -/
theorem C10_alternatives (ds : Dataset) (cs : ConnSet) (p : Params) :
    let plain := calculateSingleCS ds cs p
    match alternativesRoutingCS ds cs p with
    | .noRouting r => plain = .noRouting r                                       -- (a)
    | .exception _ => True
    | .ok (rs, n) =>
        (∃ r0 rest, rs = r0 :: rest ∧ plain = .ok r0) ∧                          -- (b)
        rs.length ≤ 50 ∧ rs.length ≤ n ∧                                        -- (f)
        (rs.map fun r => sortNat (routeLines (ds.restrict cs) r)).Nodup          -- (d)
    := by
  intro plain
  simp only [alternativesRoutingCS]
  have hplain : plain = calculateSingleWith (ds.restrict cs) cs p (routerLookup ds.access p.maxAccess) (routerLookup ds.egress p.maxEgress) := rfl
  have hacc : (ds.restrict cs).access = ds.access := rfl
  have hegr : (ds.restrict cs).egress = ds.egress := rfl
  rw [hacc, hegr]
  cases h0 : calculateSingleWith (ds.restrict cs) cs p (routerLookup ds.access p.maxAccess) (routerLookup ds.egress p.maxEgress) with
  | exception w => trivial
  | noRouting r => simp only [hplain, h0]
  | ok r0 =>
    simp only
    cases hl : altLoop (ds.restrict cs) cs { p with maxTotal := altMaxTravelTime p r0 } p.exceptLines
        (routerLookup ds.access p.maxAccess) (routerLookup ds.egress p.maxEgress) 100000 0
        { routes := [r0], allComb := (allCombos (sortNat (routeLines (ds.restrict cs) r0))).map sortNat,
          calculated := (allCombos (sortNat (routeLines (ds.restrict cs) r0))).map sortNat,
          found := [sortNat (routeLines (ds.restrict cs) r0)] } with
    | exception w => trivial
    | noRouting r => exact absurd hl (altLoop_not_noRouting _ _ _ _ _ _ _ _ _ _)
    | ok st =>
      have hinv := altLoop_invariant (AltInv (ds.restrict cs) r0) _ _ _ _ _ _
        (fun _ _ _ _ h => ⟨h.head, h.len, h.cap, Nat.le_succ_of_le h.count, h.found, h.nodup⟩)
        (fun _ _ _ _ _ _ h hs _ hr => h.snoc hs hr) _ _ _ _ ⟨rfl, rfl, by simp, by simp, rfl, by simp⟩ hl
      simp only
      refine ⟨?_, hinv.cap, ?_, ?_⟩
      · have := hinv.head
        cases hr' : st.routes with
        | nil => rw [hr'] at this; simp at this
        | cons x xs => rw [hr'] at this; simp at this; exact ⟨x, xs, rfl, by rw [hplain, h0, this]⟩
      · have h1 := hinv.len; have h2 := hinv.count; omega
      · rw [← hinv.found]; exact hinv.nodup

theorem alternativesRoutingCS_ok {ds : Dataset} {cs : ConnSet} {p : Params} {rs : List Route} {n : Nat}
    (h : alternativesRoutingCS ds cs p = .ok (rs, n)) :
    ∃ r0 st, calculateSingleCS ds cs p = .ok r0 ∧
      altLoop (ds.restrict cs) cs { p with maxTotal := altMaxTravelTime p r0 } p.exceptLines
        (routerLookup ds.access p.maxAccess) (routerLookup ds.egress p.maxEgress) 100000 0
        { routes := [r0], allComb := (allCombos (sortNat (routeLines (ds.restrict cs) r0))).map sortNat,
          calculated := (allCombos (sortNat (routeLines (ds.restrict cs) r0))).map sortNat,
          found := [sortNat (routeLines (ds.restrict cs) r0)] } = .ok st ∧
      rs = st.routes ∧ n = st.count := by
  unfold alternativesRoutingCS at h
  simp only at h
  split at h
  · cases h
  · cases h
  · rename_i r0 h0
    split at h
    · rename_i st hst
      cases h
      exact ⟨r0, st, h0, hst, rfl, rfl⟩
    · cases h
    · cases h

end Tr
