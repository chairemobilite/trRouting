/-
  Property C07, the second pass of a departure-time route query: such a query never answers
  NO_SERVICE_TO_DESTINATION.  When the first pass has chosen an arrival time, the alighting that
  realises it is caught by the second pass (its trip is flagged usable, its stop carries exactly
  that label), so the second pass counts at least one connection.
-/
import TrVerif.Props.C07Data
import TrVerif.Props.C07Rev
import TrVerif.Props.C03
namespace Tr

/-- what the forward pass has flagged usable for the second pass: every trip it has boarded, and the trip of every
    alighting recorded at an egress stop -/
structure FU (s : FState) : Prop where
  enter : ∀ T, (s.enterC T).isSome = true → s.usable T = true
  egr : ∀ y js x, s.egr y = some js → js.exit = some x → s.usable x.trip = true

theorem init_FU (cx : Ctx) : FU (FState.init cx) :=
  ⟨fun T h => by simp [FState.init] at h, fun y js x h => by simp [FState.init] at h⟩

/-- the footpath loop of an alighting from `c`, whose trip is flagged: the only entry it writes into `egr` alights
    from `c`, and it touches no flag -/
theorem fwdFoot_FU (cx : Ctx) (c : Conn) (s : FState) (f : NTD) (h : s.usable c.trip = true ∧ FU s) :
    (fwdFoot cx c s f).usable c.trip = true ∧ FU (fwdFoot cx c s f) := by
  refine fwdFoot_ind (I := fun t => t.usable c.trip = true ∧ FU t) cx c s f h fun _ => ?_
  have h1 : (fwdFootTent c s f).usable c.trip = true ∧ FU (fwdFootTent c s f) := by
    unfold fwdFootTent
    split
    · exact ⟨h.1, h.2.enter, h.2.egr⟩
    · exact h
  unfold fwdFootEgr
  split
  · refine ⟨h1.1, h1.2.enter, fun y js x hy hx => ?_⟩
    simp only [upd_apply] at hy
    split at hy
    · cases hy; cases hx; exact h1.1
    · exact h1.2.egr y js x hy hx
  · exact h1

theorem fwdStep_FU (cx : Ctx) (single : Bool) (s : FState) (c : Conn) (h : FU s) : FU (fwdStep cx single s c) := by
  rcases fwdStep_cases cx single s c with h1 | h1 | ⟨_, _, h1⟩
  · rw [h1]; exact h
  · rw [h1]; exact ⟨h.enter, h.egr⟩
  · rw [h1]
    have hE : FU (fwdBoardS s c) := by
      unfold fwdBoardS
      split
      · -- boarding flags the trip of `c`, and no flag is withdrawn
        have hmono : ∀ T, s.usable T = true → upd s.usable c.trip true T = true :=
          upd_all (P := fun T v => s.usable T = true → v = true) (fun _ => rfl) fun _ hT => hT
        refine ⟨fun T hT => ?_, fun y js x hy hx => hmono _ (h.egr y js x hy hx)⟩
        simp only [upd_apply] at hT ⊢
        split
        · rfl
        · rw [if_neg ‹_›] at hT
          exact h.enter T hT
      · exact h
    have hA : FU (fwdAlightS cx single (fwdBoardS s c) c) := by
      rw [fwdAlightS_eq]
      split
      · next hcu =>
        refine (foldl_inv (fun t : FState => t.usable c.trip = true ∧ FU t) (fun t f _ => fwdFoot_FU cx c t f) ?_).2
        rw [fwdMark_frame]
        exact ⟨hE.enter _ hcu.2, hE.enter, hE.egr⟩
      · exact hE
    exact ⟨hA.enter, hA.egr⟩

theorem Reach.ge_depT {cx : Ctx} {C : List Conn} (hacc : ∀ a ∈ cx.accessFoot, 0 ≤ a.time)
    (hfoot : ∀ z, ∀ f ∈ cx.ds.footOf z, 0 ≤ f.time) (hmw : 0 ≤ cx.p.minWait)
    (hda : ∀ e ∈ C, ∀ x ∈ C, e.trip = x.trip → e.seq ≤ x.seq → e.dep ≤ x.arr)
    {y : Nat} {t : Int} (h : Reach cx C y t) : cx.depT ≤ t := by
  induction h with
  | access a ha => have := hacc a ha; omega
  | ride y t e x f _ he hx _ h2 h3 h4 _ _ _ h8 _ ih =>
    have h1 := hda e he x hx h3 h4
    have hw := effWait_nonneg e cx.p.minWait hmw
    have hf := hfoot _ f h8
    omega

theorem Reason_ne1 : Reason.noAccessAtOriginAndDestination ≠ Reason.noServiceToDestination := by intro h; cases h
theorem Reason_ne2 : Reason.noAccessAtOrigin ≠ Reason.noServiceToDestination := by intro h; cases h
theorem Reason_ne3 : Reason.noAccessAtDestination ≠ Reason.noServiceToDestination := by intro h; cases h
theorem Reason_ne4 : Reason.noServiceFromOrigin ≠ Reason.noServiceToDestination := by intro h; cases h
theorem Reason_ne5 : Reason.noRoutingFound ≠ Reason.noServiceToDestination := by intro h; cases h

theorem secondPass_counts {cx : Ctx} {start : Nat} {ba : Int} {node : Nat}
    (hsF : SortedFwd cx.cs.fwd) (hsR : SortedRev cx.cs.rev) (hidx : cx.cs.revIdx = revIndex cx.cs.rev)
    (hfr : ∀ c ∈ cx.cs.fwd, c ∈ cx.cs.rev)
    (hdm : ∀ a ∈ cx.cs.fwd, ∀ b ∈ cx.cs.fwd, a.trip = b.trip → a.seq ≤ b.seq → a.dep ≤ b.dep)
    (hda : ∀ e ∈ cx.cs.fwd, ∀ x ∈ cx.cs.fwd, e.trip = x.trip → e.seq ≤ x.seq → e.dep ≤ x.arr)
    (hmw : 0 ≤ cx.p.minWait) (hb : ∀ c ∈ cx.cs.fwd, c.dep < MAX_INT)
    (hacc : ∀ a ∈ cx.accessFoot, 0 ≤ a.time) (hfoot : ∀ z, ∀ f ∈ cx.ds.footOf z, 0 ≤ f.time)
    (hegr : ∀ g ∈ cx.egressFoot, 0 ≤ g.time) (hnd : cx.EgrNodup)
    (hbest : bestEgress cx (fwdScan cx true start) = some (ba, node)) (start2 : Nat)
    (hst2 : lookupPos (revLookup cx.cs.rev cx.cs.revIdx (hourOf ba + 1)) = some start2) :
    (revScan { cx with arrT := ba } (fwdScan cx true start).usable true start2).count ≠ 0 := by
  have hinv := fwdScan_FInv cx true start hsF hdm hmw hb
  have hfu : FU (fwdScan cx true start) :=
    foldl_inv FU (fun s c _ h => fwdStep_FU cx true s c h) (init_FU cx)
  generalize fwdScan cx true start = fs at hbest hinv hfu ⊢
  obtain ⟨gs, hgs, js, xs, egs, hjs, hxs, hngs, hbaeq, hbaT, hba0⟩ := bestEgress_sound hbest
  obtain ⟨e, x, hje, hjx, hxstop, hxC, htrip, hseq, hcu, hboard⟩ := hinv.egr gs.stop js hjs
  rw [hxs] at hjx; cases hjx
  have husable := hfu.egr gs.stop js xs hjs hxs
  obtain ⟨heC, _, hdis, t, hreach, ht⟩ := hboard
  have hge := hreach.ge_depT hacc hfoot hmw hda
  have hw := effWait_nonneg e cx.p.minWait hmw
  have hdep := hda e heC xs hxC htrip hseq
  have hm := nodes_mem hngs
  have hegt := hegr egs hm.1
  -- the alighting is caught by the second pass
  have hcaught : CaughtR { cx with arrT := ba } true xs := by
    refine ⟨?_, by rw [← htrip]; exact hdis, ?_, ?_⟩
    · simp only [if_true]
      have := minTime_le cx.egressFoot egs hm.1
      show xs.arr ≤ ba - minTime cx.egressFoot
      omega
    · show ba - xs.arr ≤ cx.p.maxTotal
      omega
    · have hlab := init_lab_egress (cx := { cx with arrT := ba }) hnd hm.1
      rw [hm.2, ← hxstop] at hlab
      rw [hlab]
      show xs.arr ≤ ba - egs.time
      omega
  -- it lies in the scanned part of the list
  have hxdrop := mem_drop_start_rev cx.cs hidx ba hba0 start2 hst2 (hfr xs hxC) (by omega)
  exact fun hz => (revScan_count_zero { cx with arrT := ba } fs.usable true hsR start2).mp hz xs hxdrop husable hcaught

/-- **C07, departure-time route queries never answer NO_SERVICE_TO_DESTINATION.** With
    `C07_access` (the three NO_ACCESS_* reasons, exactly when the router offers nothing) and
    `C07_route_no_service_from_origin` (exactly when nothing can be caught) every other failed
    departure-time query answers NO_ROUTING_FOUND. -/
theorem C07_departure_never_to_destination (ds : Dataset) (hwf : WFData ds) (p : Params) (hp : p.forward = true)
    (hmw : 0 ≤ p.minWait) (hmt : 0 ≤ p.maxTransfer) (hb : TimesBounded ds)
    (hacc : ∀ a ∈ ds.access, 0 ≤ a.time) (hegr : ∀ g ∈ ds.egress, 0 ≤ g.time) (hend : (ds.egress.map (·.stop)).Nodup) :
    calculateSingle ds p ≠ .noRouting .noServiceToDestination := by
  have hsub := connSetOf_rev_sub ds (ds.scenarioOf p)
  have hfr := connSetOf_fwd_mem_rev ds (ds.scenarioOf p)
  have hw := timeWF_dataset hwf p hmw hmt (ds.scenarioOf p) (routerLookup ds.access p.maxAccess)
    (routerLookup ds.egress p.maxEgress) p.time (-1)
  intro h
  unfold calculateSingle calculateSingleCS calculateSingleWith at h
  split at h
  · cases h
  · split at h
    · cases h
    · split at h
      · cases h
      · simp only [mkCtx_cs] at h
        split at h
        · cases h
        · split at h
          · cases h
          · split at h
            · cases h
            · rename_i ba node hbest
              obtain ⟨start2, hst2⟩ := rev_start_exists (ds.connSetOf (ds.scenarioOf p)).rev (hourOf ba + 1)
              refine secondPass_counts
                (cx := mkCtx (ds.restrict (ds.connSetOf (ds.scenarioOf p))) p (ds.connSetOf (ds.scenarioOf p))
                  (routerLookup ds.access p.maxAccess) (routerLookup ds.egress p.maxEgress) p.time (-1))
                (connSetOf_sortedFwd ds _) (connSetOf_sorted ds _) rfl hfr
                (fun a ha b hb' => hw.depMono a (hfr a ha) b (hfr b hb'))
                (fun a ha b hb' => hw.depArr a (hfr a ha) b (hfr b hb'))
                hmw (fun c hc => hb c (hsub c (hfr c hc)))
                (fun a ha => hacc a (List.mem_filter.mp ha).1)
                (fun z f hf => hwf.footNonneg _ (footOf_mem (ds := ds.restrict (ds.connSetOf (ds.scenarioOf p))) hf))
                (fun g hg => hegr g (List.mem_filter.mp hg).1)
                (routerLookup_nodup _ _ hend) hbest start2 hst2 ((singleReverse_toDestination_iff ?_).mp h)
              exact hst2

end Tr
