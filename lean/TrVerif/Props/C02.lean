/-
  Property C02 — query limits and scenario restrictions are honoured by every route.

  Each clause is proved as `calcWith_…` for a calculation over any scenario's connection set with
  any walking tables (so that it also covers the recalculations of the alternatives search) and
  then read off for `calculateSingle` (`C02_partial`, `C02_times`, `C02_first_wait`, `C02_arrival`).
  `C02_partial`: every ride is on a hop of the scenario's own connection set, i.e. of a trip whose service, line,
  agency and mode the scenario admits (`tripEnabled`); the access walk is an entry of the router's table within
  max_access_travel_time, the egress walk one within max_egress_travel_time; every transfer walk is at most
  max_transfer_travel_time.
-/
import TrVerif.Props.C01
namespace Tr

/-- all transfer walks of a step list are within `maxT` -/
def transferWalksWithin (maxT : Int) (steps : List Step) : Prop :=
  ∀ s ∈ steps, ∀ tt d dep arr rdy, s = .walk 1 tt d dep arr rdy → tt ≤ maxT

theorem stepsOfLegs_transfer (cx : Ctx) (C : List Conn) (egr : JStep) :
    ∀ (legs : List JStep) (t : Int), LegsOK cx C legs →
      transferWalksWithin cx.p.maxTransfer (stepsOfLegs cx.ds cx.p.minWait t legs egr) := by
  intro legs t hok
  by_cases hne : legs = []
  · subst hne; intro s hs; simp [stepsOfLegs] at hs
  refine stepsOfLegs_induction cx.ds cx.p.minWait egr
    (P := fun _ legs S => LegsOK cx C legs → transferWalksWithin cx.p.maxTransfer S) ?_ ?_ legs t hne hok.allLegs hok
  · intro t l e x _ _ _ s hs tt d dep arr rdy heq
    simp only [lastSteps, boardOf, unboardOf, List.cons_append, List.nil_append, List.mem_cons, List.mem_nil_iff,
      or_false] at hs
    rcases hs with h | h | h <;> (rw [h] at heq; cases heq)
  · intro t l e x l2 rest S _ _ _ ih hok s hs tt d dep arr rdy heq
    obtain ⟨_, ⟨_, _, _, _, hlink⟩, hrest⟩ := LegsOK_cons2.mp hok
    rcases List.mem_append.mp hs with h | h
    · -- of the three steps of a leg only the walk is a transfer walk, and its link bounds it
      simp only [midSteps, boardOf, unboardOf, List.mem_cons, List.mem_nil_iff, or_false] at h
      rcases h with h | h | h <;> rw [h] at heq <;> cases heq
      exact hlink.2.1
    · exact ih hrest s h tt d dep arr rdy heq

theorem calcWith_limits {ds : Dataset} (hwf : WFData ds) (sc : Scenario) (p : Params) (hmw : 0 ≤ p.minWait)
    (hmt : 0 ≤ p.maxTransfer) (a e : List NTD) {r : Route}
    (h : calculateSingleWith (ds.restrict (ds.connSetOf sc)) (ds.connSetOf sc) p a e = .ok r) :
    ValidItinerary (ds.connSetOf sc).rev ds.foot a e (ds.mwOfTrip p) r ∧ transferWalksWithin p.maxTransfer r.steps := by
  obtain ⟨depT, arrT, bd, j, rfl, hJ, _⟩ := calcWith_journey hwf sc p hmw hmt a e h
  refine ⟨emit_valid mem_of_filter (ds.mwOfTrip p)
    (fun c hc => (allowed_conns hwf sc p _ c hc).2) hJ, ?_⟩
  obtain ⟨acc, legs, egr, rfl, hacc, hegr, hne, hok, _, _⟩ := hJ
  rw [(emit_steps (ds.restrict (ds.connSetOf sc)) p.minWait bd acc egr legs hacc hegr hne hok.allLegs).1]
  intro s hs tt d dep arr rdy heq
  rcases List.mem_cons.mp hs with h0 | h0
  · rw [h0] at heq; cases heq
  · exact stepsOfLegs_transfer _ _ egr legs (bd + acc.walk) hok s h0 tt d dep arr rdy heq

/-- **C02 (scenario, access / egress / transfer maxima).** -/
theorem C02_partial (ds : Dataset) (hwf : WFData ds) (p : Params) (hmw : 0 ≤ p.minWait) (hmt : 0 ≤ p.maxTransfer)
    {r : Route} (h : calculateSingle ds p = .ok r) :
    -- rides only on hops of the scenario's connection set, walks from the router's tables within the maxima …
    ValidItinerary (ds.connSetOf (ds.scenarioOf p)).rev ds.foot
      (routerLookup ds.access p.maxAccess) (routerLookup ds.egress p.maxEgress) (ds.mwOfTrip p) r ∧
    (∀ c ∈ (ds.connSetOf (ds.scenarioOf p)).rev, ds.tripEnabled (ds.scenarioOf p) c.trip = true) ∧
    (∀ n ∈ routerLookup ds.access p.maxAccess, n.time ≤ p.maxAccess) ∧
    (∀ n ∈ routerLookup ds.egress p.maxEgress, n.time ≤ p.maxEgress) ∧
    -- … and no transfer walk longer than the transfer maximum
    transferWalksWithin p.maxTransfer r.steps := by
  obtain ⟨h1, h5⟩ := calcWith_limits hwf (ds.scenarioOf p) p hmw hmt _ _ h
  exact ⟨h1, fun _ hc => (mem_connSetOf_rev.mp hc).2, fun n hn => (routerLookup_le _ _ n hn).1, fun n hn => (routerLookup_le _ _ n hn).1, h5⟩

theorem calcWith_times {ds : Dataset} (hwf : WFData ds) (sc : Scenario) (p : Params) (hmw : 0 ≤ p.minWait)
    (hmt : 0 ≤ p.maxTransfer) (a e : List NTD) {r : Route}
    (h : calculateSingleWith (ds.restrict (ds.connSetOf sc)) (ds.connSetOf sc) p a e = .ok r) :
    0 ≤ r.departureTime ∧ (p.forward = true → p.time ≤ r.departureTime) ∧
    (p.forward = false → p.time - r.departureTime ≤ p.maxTotal) := by
  obtain ⟨depT, arrT, bd, j, rfl, _, hF, hR, h0, hT, _⟩ := calcWith_journey hwf sc p hmw hmt a e h
  exact ⟨h0, fun hf => (hF hf).2, fun hf => by rw [← (hR hf).2]; exact hT⟩

/-- **C02 (departure clauses).** A returned route never leaves before a requested
    departure time; for an arrival-time query its span back from the requested time is at most
    max_travel_time; it never leaves before 0:00. -/
theorem C02_times (ds : Dataset) (hwf : WFData ds) (p : Params) (hmw : 0 ≤ p.minWait) (hmt : 0 ≤ p.maxTransfer)
    {r : Route} (h : calculateSingle ds p = .ok r) :
    0 ≤ r.departureTime ∧ (p.forward = true → p.time ≤ r.departureTime) ∧
    (p.forward = false → p.time - r.departureTime ≤ p.maxTotal) :=
  calcWith_times hwf (ds.scenarioOf p) p hmw hmt _ _ h

theorem JourneyOK.arrival_le {cx : Ctx} {C : List Conn} {bd : Int} {j : List JStep} (h : JourneyOK cx C bd j)
    (hnd : cx.EgrNodup) : (emit cx.ds cx.p.minWait bd j).arrivalTime ≤ cx.arrT := by
  obtain ⟨acc, legs, egr, rfl, hacc, hegr, hne, hok, _, hlast⟩ := h
  obtain ⟨x, hx⟩ : ∃ x, (legs.getLast hne).exit = some x :=
    let ⟨_, x, _, hx⟩ := hok.allLegs _ (List.getLast_mem hne); ⟨x, hx⟩
  rw [emit_arrival _ _ _ acc egr legs hacc hegr hne hok.allLegs,
    finalArrival_last egr legs _ x (List.getLast?_eq_some_getLast hne) hx]
  exact (hlast _ x (List.getLast?_eq_some_getLast hne) hx).2 hnd

theorem calcWith_arrival {ds : Dataset} (hwf : WFData ds) (sc : Scenario) (p : Params) (hmw : 0 ≤ p.minWait)
    (hmt : 0 ≤ p.maxTransfer) (a e : List NTD) (hnd : (e.map (·.stop)).Nodup) {r : Route}
    (h : calculateSingleWith (ds.restrict (ds.connSetOf sc)) (ds.connSetOf sc) p a e = .ok r) :
    (p.forward = false → r.arrivalTime ≤ p.time) ∧ (p.forward = true → r.arrivalTime - p.time ≤ p.maxTotal) := by
  obtain ⟨depT, arrT, bd, j, rfl, hJ, _, hR, _, _, hS⟩ := calcWith_journey hwf sc p hmw hmt a e h
  have hle : (emit (ds.restrict (ds.connSetOf sc)) p.minWait bd j).arrivalTime ≤ arrT := hJ.arrival_le hnd
  exact ⟨fun hf => by rw [← (hR hf).2]; exact hle, fun hf => by have := hS hf; omega⟩

/-- **C02 (arrival clauses).** When the walking router lists every stop at most once around the
    destination: an arrival-time query never arrives after the requested time, and a departure-time
    query arrives within max_travel_time of the requested departure. -/
theorem C02_arrival (ds : Dataset) (hwf : WFData ds) (p : Params) (hmw : 0 ≤ p.minWait) (hmt : 0 ≤ p.maxTransfer)
    (hnd : (ds.egress.map (·.stop)).Nodup) {r : Route} (h : calculateSingle ds p = .ok r) :
    (p.forward = false → r.arrivalTime ≤ p.time) ∧ (p.forward = true → r.arrivalTime - p.time ≤ p.maxTotal) :=
  calcWith_arrival hwf (ds.scenarioOf p) p hmw hmt _ _ (routerLookup_nodup _ _ hnd) h

theorem calcWith_first_wait (ds : Dataset) (hwf : WFData ds) (sc : Scenario) (p : Params) (hmw : 0 ≤ p.minWait)
    (hmt : 0 ≤ p.maxTransfer) (a e : List NTD) {r : Route}
    (h : calculateSingleWith (ds.restrict (ds.connSetOf sc)) (ds.connSetOf sc) p a e = .ok r) (hf : p.forward = true) (hd : p.time ≠ -1) :
    ∃ w d t0 t1 t2 trip seq stop dep wait rest,
      r.steps = .walk 0 w d t0 t1 t2 :: .board trip seq stop dep wait :: rest ∧
      (p.maxFirstWait < ds.mwOfTrip p trip ∨ dep - p.time - w ≤ p.maxFirstWait) := by
  obtain ⟨depT, arrT, bd, j, rfl, hJ, hF, _⟩ := calcWith_journey hwf sc p hmw hmt a e h
  obtain ⟨rfl, _⟩ := hF hf
  obtain ⟨acc, legs, egr, rfl, hacc, hegr, hne, hok, hfirst, _⟩ := hJ
  obtain ⟨l1, rest, rfl⟩ := List.exists_cons_of_ne_nil hne
  obtain ⟨e1, x1, he1, hx1⟩ := hok.allLegs l1 (List.mem_cons_self ..)
  obtain ⟨tl, hS⟩ := stepsOfLegs_head (ds.restrict (ds.connSetOf sc)) p.minWait egr l1 rest (bd + acc.walk) e1 x1 he1 hx1
  have hsteps := (emit_steps (ds.restrict (ds.connSetOf sc)) p.minWait bd acc egr (l1 :: rest) hacc hegr hne hok.allLegs).1
  rw [hS] at hsteps
  refine ⟨acc.walk, acc.dist, _, _, _, e1.trip, e1.seq, e1.depStop, e1.dep, _, tl, hsteps, ?_⟩
  rw [← (allowed_conns hwf sc p _ e1 (hok.mem_enter l1 (List.mem_cons_self ..) e1 he1)).2]
  exact (hfirst e1 (by simp [he1])).2.2 hd

/-- **C02 (first-waiting cap).** For a departure-time query the route starts with the access walk
    followed by a boarding whose departure, counted from the moment the traveller can stand at that
    stop (requested departure + access walk), is within max_first_waiting_time - unless the cap is
    smaller than the minimum waiting time in force for that trip, which no boarding could satisfy
    (the code lets such a boarding through; DESIGN 0.5). -/
theorem C02_first_wait (ds : Dataset) (hwf : WFData ds) (p : Params) (hmw : 0 ≤ p.minWait) (hmt : 0 ≤ p.maxTransfer)
    {r : Route} (h : calculateSingle ds p = .ok r) (hf : p.forward = true) (hd : p.time ≠ -1) :
    ∃ w d t0 t1 t2 trip seq stop dep wait rest,
      r.steps = .walk 0 w d t0 t1 t2 :: .board trip seq stop dep wait :: rest ∧
      (p.maxFirstWait < ds.mwOfTrip p trip ∨ dep - p.time - w ≤ p.maxFirstWait) :=
  calcWith_first_wait ds hwf (ds.scenarioOf p) p hmw hmt _ _ h hf hd

end Tr
