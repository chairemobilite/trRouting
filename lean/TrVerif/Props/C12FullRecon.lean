/-
  Props/C12FullRecon — translation invariance of the calculation itself, after the reverse scan: journey
  reconstruction (`reconLoop`), the journey clean-up with its four rewrite cases (`optimizeJourney`) and the transfer
  count give, on the shifted journey steps, the shifted result.  Nothing here compares clock values: the clean-up
  looks at stops, trips and sequence numbers only, so no range condition is needed; what is needed is that the per-trip
  connection lists of the two datasets correspond (`TripLists`).
-/
import TrVerif.Props.C12Full
namespace Tr

theorem shJ_hasConns (k : Int) (j : JStep) : (shJ k j).hasConns = j.hasConns := by
  simp [JStep.hasConns, shJ]

theorem shJ_default (k : Int) : shJ k ({} : JStep) = {} := rfl

theorem reconLoop_shift (k : Int) (steps : Nat → JStep) : ∀ (fuel : Nat) (cur : JStep) (acc : List JStep) (last : Option Nat),
    reconLoop (fun n => shJ k (steps n)) fuel (shJ k cur) (acc.map (shJ k)) last =
      (reconLoop steps fuel cur acc last).map fun r => (r.1.map (shJ k), r.2) := by
  intro fuel
  induction fuel with
  | zero => intro cur acc last; simp only [reconLoop, shJ_hasConns]; split <;> rfl
  | succ fuel ih =>
    intro cur acc last
    simp only [reconLoop, shJ_hasConns]
    by_cases hc : cur.hasConns = true
    · simp only [hc, if_true]
      refine Eq.trans ?_ (ih _ _ _)
      congr 1
      · simp only [shJ]; cases cur.exit <;> rfl
      · rw [List.getLast?_map]
        cases acc.getLast? with
        | none => simp
        | some l => simp [List.map_dropLast, shJ]
      · simp only [shJ]; cases cur.exit <;> rfl
    · simp only [hc, Bool.false_eq_true, if_false]; rfl

structure TripLists (k : Int) (ds ds' : Dataset) : Prop where
  fwd : ∀ t, ds'.tripFwd t = (ds.tripFwd t).map (shiftConn k)
  rev : ∀ t, ds'.tripRev t = (ds.tripRev t).map (shiftConn k)
  transferable : ∀ t, ds'.transferable t = ds.transferable t
  nStops : ds'.nStops = ds.nStops

theorem getD_map_depStop (k : Int) (l : List Conn) (i : Nat) : ((l.map (shiftConn k)).getD i default).depStop = (l.getD i default).depStop := by
  simp only [List.getD_eq_getElem?_getD, List.getElem?_map]
  cases l[i]? <;> rfl

theorem legInfo_shift {k : Int} {ds ds' : Dataset} (h : TripLists k ds ds') (j : JStep) : legInfo ds' (shJ k j) = legInfo ds j := by
  unfold legInfo
  refine legMatch_shift k j _ _ none none id rfl fun e x => ?_
  simp only [shiftConn_seq, shiftConn_trip, shiftConn_depStop, shiftConn_arrStop, h.fwd, getD_map_depStop]
  rfl

theorem searchJourney_shift {k : Int} {ds ds' : Dataset} (h : TripLists k ds ds') (ignore : List Nat) :
    ∀ (j : List JStep) (idx : Nat) (infos : List (Option LegInfo)),
      searchJourney ds' ignore (j.map (shJ k)) idx infos = searchJourney ds ignore j idx infos := by
  intro j
  induction j with
  | nil => intro idx infos; rfl
  | cons a j ih =>
    intro idx infos
    simp only [List.map_cons, searchJourney, legInfo_shift h]
    cases legInfo ds a with
    | none => exact ih _ _
    | some cur =>
      simp only
      cases searchPair ignore (infos ++ [some cur]) idx cur 0 idx with
      | some f => rfl
      | none => exact ih _ _

theorem revSlice_shift {k : Int} {ds ds' : Dataset} (h : TripLists k ds ds') (t s0 s1 : Nat) :
    revSlice ds' t s0 s1 = (revSlice ds t s0 s1).map (shiftConn k) := by
  unfold revSlice
  simp only [h.rev, List.length_map, List.map_take, List.map_drop]

def shO (k : Int) (st : OptState) : OptState := { st with journey := st.journey.map (shJ k) }

theorem getD_map_shJ (k : Int) (j : List JStep) (i : Nat) : (j.map (shJ k)).getD i {} = shJ k (j.getD i {}) := by
  simp only [List.getD_eq_getElem?_getD, List.getElem?_map]
  cases j[i]? <;> rfl

theorem modifyAt_map (k : Int) (j : List JStep) (i : Nat) (f g : JStep → JStep) (hfg : ∀ x, g (shJ k x) = shJ k (f x)) :
    modifyAt (j.map (shJ k)) i g = (modifyAt j i f).map (shJ k) := by
  unfold modifyAt
  simp only [List.getElem?_map]
  cases hji : j[i]? with
  | none => rfl
  | some x => simp only [Option.map_some, hfg, List.map_set]

theorem eraseRange_map {α β : Type} (f : α → β) (l : List α) (a b : Nat) : eraseRange (l.map f) a b = (eraseRange l a b).map f := by
  simp only [eraseRange, List.map_append, List.map_take, List.map_drop]

theorem cssExit_shift (k : Int) (node : Nat) : ∀ (l : List Conn) (acc : Option Conn),
    cssExit node (l.map (shiftConn k)) (acc.map (shiftConn k)) = (cssExit node l acc).map (shiftConn k) := by
  intro l
  induction l with
  | nil => intro acc; rfl
  | cons c l ih =>
    intro acc
    simp only [List.map_cons, cssExit]
    rw [shiftConn_arrStop, shiftConn_canUnboard]
    split
    · split
      · exact ih (some c)
      · rfl
    · exact ih acc

theorem cssEnter_shift (k : Int) (node from_ to : Nat) (exitC : Option Conn) : ∀ (l : List Conn) (j : List JStep) (ig us : List Nat) (ap : Bool),
    cssEnter node from_ to (exitC.map (shiftConn k)) (l.map (shiftConn k)) (j.map (shJ k), ig, us, ap) =
      (fun r => (r.1.map (shJ k), r.2)) (cssEnter node from_ to exitC l (j, ig, us, ap)) := by
  intro l
  induction l with
  | nil => intro j ig us ap; rfl
  | cons c l ih =>
    intro j ig us ap
    simp only [List.map_cons, cssEnter]
    rw [shiftConn_depStop, shiftConn_canBoard]
    split
    · cases exitC with
      | none => rfl
      | some x =>
        simp only [Option.map_some]
        split
        · rw [modifyAt_map k j from_ (fun s => { s with exit := some x }) _ (fun y => rfl),
            modifyAt_map k _ to (fun s => { s with enter := some c }) _ (fun y => rfl)]
          exact ih _ _ _ _
        · rfl
    · exact ih _ _ _ _

theorem sliceFind_shift {k : Int} {ds ds' : Dataset} (h : TripLists k ds ds') (e x : Conn) (p : Conn → Bool) (hp : ∀ c, p (shiftConn k c) = p c) :
    (revSlice ds' (shiftConn k e).trip ((shiftConn k e).seq - 1) ((shiftConn k x).seq - 1)).find? p =
      ((revSlice ds e.trip (e.seq - 1) (x.seq - 1)).find? p).map (shiftConn k) := by
  rw [shiftConn_trip, shiftConn_seq, shiftConn_seq, revSlice_shift h, List.find?_map, show p ∘ shiftConn k = p from funext hp]

theorem applyFound_shift {k : Int} {ds ds' : Dataset} (h : TripLists k ds ds') (st : OptState) (f : Found) :
    applyFound ds' (shO k st) f = (shO k (applyFound ds st f).1, (applyFound ds st f).2) := by
  unfold applyFound
  simp only [shO, getD_map_shJ]
  split
  · -- CSL
    refine legMatch_shift k _ _ _ _ _ (fun r : OptState × Bool => (shO k r.1, r.2)) rfl fun e x => ?_
    rw [sliceFind_shift h e x _ fun _ => rfl]
    cases (revSlice ds e.trip (e.seq - 1) (x.seq - 1)).find? (fun c => decide (c.arrStop = f.node)) with
    | none => rfl
    | some c =>
      simp only [Option.map_some]
      rw [shiftConn_canUnboard]
      split
      · rfl
      · simp only [shO]
        congr 2
        rw [modifyAt_map k st.journey f.from_ (fun s => { s with walk := (st.journey.getD f.to {}).walk, dist := (st.journey.getD f.to {}).dist }) _ (fun y => rfl)]
        rw [eraseRange_map]
        rw [modifyAt_map k _ f.from_ (fun s => { s with exit := some c }) _ (fun y => rfl)]
  · -- BTS
    refine legMatch_shift k _ _ _ _ _ (fun r : OptState × Bool => (shO k r.1, r.2)) rfl fun e x => ?_
    rw [sliceFind_shift h e x _ fun _ => rfl]
    cases (revSlice ds e.trip (e.seq - 1) (x.seq - 1)).find? (fun c => decide (c.depStop = f.node)) with
    | none => rfl
    | some c =>
      simp only [Option.map_some]
      rw [shiftConn_canBoard]
      split
      · rfl
      · simp only [shO]
        congr 2
        rw [modifyAt_map k st.journey f.to (fun s => { s with enter := some c }) _ (fun y => rfl)]
        rw [modifyAt_map k _ f.from_ (fun s => { s with walk := 0, dist := 0 }) _ (fun y => rfl)]
        rw [eraseRange_map]
  · -- GTF
    refine legMatch_shift k _ _ _ _ _ (fun r : OptState × Bool => (shO k r.1, r.2)) rfl fun e x => ?_
    rw [sliceFind_shift h e x _ fun _ => rfl]
    cases (revSlice ds e.trip (e.seq - 1) (x.seq - 1)).find? (fun c => decide (c.arrStop = f.node)) with
    | none => rfl
    | some c =>
      simp only [Option.map_some]
      rw [shiftConn_canUnboard]
      split
      · rfl
      · simp only [shO]
        congr 2
        rw [modifyAt_map k st.journey f.from_ (fun s => { s with exit := some c, walk := 0, dist := 0 }) _ (fun y => rfl)]
        rw [eraseRange_map]
  · -- CSS
    generalize st.journey.getD f.from_ {} = jf
    generalize st.journey.getD f.to {} = jt
    obtain ⟨en1, ex1, w1, d1⟩ := jf
    obtain ⟨en2, ex2, w2, d2⟩ := jt
    cases en1 with
    | none => rfl
    | some e1 =>
      cases ex1 with
      | none => rfl
      | some x1 =>
        cases en2 with
        | none => rfl
        | some e2 =>
          cases ex2 with
          | none => rfl
          | some x2 =>
            simp only [shJ, Option.map_some, shiftConn_seq, shiftConn_trip, revSlice_shift h]
            rw [show cssExit f.node ((revSlice ds e1.trip (e1.seq - 1) (x1.seq - 1)).map (shiftConn k)) none = _ from
                cssExit_shift k f.node _ none,
              cssEnter_shift k f.node f.from_ f.to _ _ st.journey st.ignore st.used false]
            generalize cssEnter f.node f.from_ f.to (cssExit f.node (revSlice ds e1.trip (e1.seq - 1) (x1.seq - 1)) none)
              (revSlice ds e2.trip (e2.seq - 1) (x2.seq - 1)) (st.journey, st.ignore, st.used, false) = r
            obtain ⟨j1, ig, us, ap⟩ := r
            cases ap with
            | false => rfl
            | true =>
              simp only [if_true]
              congr 2
              rw [modifyAt_map k j1 f.from_ (fun s => { s with walk := 0, dist := 0 }) _ (fun y => rfl), eraseRange_map]

theorem optimizeLoop_shift {k : Int} {ds ds' : Dataset} (h : TripLists k ds ds') : ∀ (fuel : Nat) (st : OptState),
    optimizeLoop ds' fuel (shO k st) = (optimizeLoop ds fuel st).map (shO k) := by
  intro fuel
  induction fuel with
  | zero => intro st; rfl
  | succ fuel ih =>
    intro st
    simp only [optimizeLoop]
    have hs : searchJourney ds' (shO k st).ignore (shO k st).journey 0 [] = searchJourney ds st.ignore st.journey 0 [] :=
      searchJourney_shift h st.ignore st.journey 0 []
    rw [hs]
    cases searchJourney ds st.ignore st.journey 0 [] with
    | none => rfl
    | some f =>
      simp only [applyFound_shift h]
      cases (applyFound ds st f).2 with
      | true => simp only [if_true]; exact ih _
      | false => rfl

theorem legHops_shift (k : Int) (j : JStep) : legHops (shJ k j) = legHops j := by
  unfold legHops shJ
  cases j.enter <;> cases j.exit <;> rfl

theorem optimizeJourney_shift {k : Int} {ds ds' : Dataset} (h : TripLists k ds ds') (j : List JStep) :
    optimizeJourney ds' (j.map (shJ k)) = (optimizeJourney ds j).map (shO k) := by
  unfold optimizeJourney optimizeFuel
  have hf : ((j.map (shJ k)).map legHops).sum = (j.map legHops).sum := by
    simp only [List.map_map]; congr 1; apply List.map_congr_left; intro a _; exact legHops_shift k a
  rw [hf, h.nStops]
  exact optimizeLoop_shift h _ { journey := j }

theorem countTransfers_shift {k : Int} {ds ds' : Dataset} (h : TripLists k ds ds') (j : List JStep) :
    countTransfers ds' (j.map (shJ k)) = countTransfers ds j := by
  unfold countTransfers
  rw [List.foldl_map]
  congr 1
  funext n s
  exact legMatch_shift k s _ _ n n id rfl fun e x => by rw [shiftConn_trip, h.transferable]; rfl

end Tr
