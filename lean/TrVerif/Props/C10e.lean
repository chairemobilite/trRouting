/-
  Property C10, clauses (c) and (e).  (e): no further route of an alternatives answer beats
  `routes[0]` - it does not arrive earlier (departure-time queries) nor depart later (arrival-time
  queries).  (c): every route keeps the limits of the original query and has correct totals
  (`C10_alt_*`); these are the `calcWith_*` lemmas of C02 / C06 through `alternatives_forall`.

  Every further route is the answer of a recalculation with more lines excluded and a smaller
  `max_travel_time`, on the same connection set with the same footpaths.  By the attainment
  theorems it is an admissible journey of that recalculation; excluding fewer lines and allowing
  a longer journey keeps it admissible for the original query (`CtxLe`); and `routes[0]` is the
  original query's answer, optimal among its admissible journeys (C03 / C04).
-/
import TrVerif.Props.NoExc
import TrVerif.Props.C10
import TrVerif.Props.C06
namespace Tr

/-- two contexts that agree on everything the inductive specifications read, the second one
    excluding no trip the first one admits -/
structure CtxLe (cx cx' : Ctx) : Prop where
  ds : cx.ds = cx'.ds
  mw : cx.p.minWait = cx'.p.minWait
  mt : cx.p.maxTransfer = cx'.p.maxTransfer
  acc : cx.accessFoot = cx'.accessFoot
  egr : cx.egressFoot = cx'.egressFoot
  depT : cx.depT = cx'.depT
  arrT : cx.arrT = cx'.arrT
  dis : ∀ t, cx.disabled t = false → cx'.disabled t = false

theorem Reach.ctxLe {cx cx' : Ctx} (h : CtxLe cx cx') {C : List Conn} {y : Nat} {t : Int} (hr : Reach cx C y t) :
    Reach cx' C y t := by
  induction hr with
  | access a ha =>
    rw [h.depT]
    exact Reach.access a (h.acc ▸ ha)
  | ride y t e x f _ he hx h1 h2 h3 h4 h5 h6 h7 h8 h9 ih =>
    exact Reach.ride y t e x f ih he hx h1 (by rw [← h.mw]; exact h2) h3 h4 h5 h6 (h.dis _ h7)
      (by rw [← h.ds]; exact h8) (by rw [← h.mt]; exact h9)

theorem RReach.ctxLe {cx cx' : Ctx} (h : CtxLe cx cx') {C : List Conn} {y : Nat} {t : Int} (hr : RReach cx C y t) :
    RReach cx' C y t := by
  induction hr with
  | egress g hg =>
    rw [h.arrT]
    exact RReach.egress g (h.egr ▸ hg)
  | ride z t e x f _ he hx h1 h2 h3 h4 h5 h6 h7 h8 h9 ih =>
    rw [h.mw]
    exact RReach.ride z t e x f ih he hx h1 h2 h3 h4 h5 h6 (h.dis _ h7)
      (by rw [← h.ds]; exact h8) (by rw [← h.mt]; exact h9)

theorem AdmFwd.ctxLe {cx cx' : Ctx} (h : CtxLe cx cx') {C : List Conn} {e x : Conn} {g : NTD} (hA : AdmFwd cx C e x g) :
    AdmFwd cx' C e x g := by
  obtain ⟨⟨hcb, hdis, t, hr, ht⟩, h2, h3, h4, h5, h6, h7, h8⟩ := hA
  exact ⟨⟨hcb, h.dis _ hdis, t, hr.ctxLe h, by rw [← h.mw]; exact ht⟩, h2, h3, h4, h5, h6, h.egr ▸ h7, h8⟩

theorem AdmRev.ctxLe {cx cx' : Ctx} (h : CtxLe cx cx') {C : List Conn} {a0 : NTD} {e0 x0 : Conn} (hA : AdmRev cx C a0 e0 x0) :
    AdmRev cx' C a0 e0 x0 := by
  obtain ⟨h1, h2, h3, h4, h5, h6, h7, hcu, hdis, t, hr, ht⟩ := hA
  exact ⟨h.acc ▸ h1, h2, h3, h4, h5, h6, h7, hcu, h.dis _ hdis, t, hr.ctxLe h, ht⟩

theorem ctxLe_alt (ds : Dataset) (p : Params) (cs : ConnSet) (a e : List NTD) (depT arrT : Int) (M : Int) (comb : List Nat) :
    CtxLe (mkCtx ds { p with maxTotal := M, exceptLines := p.exceptLines ++ comb } cs a e depT arrT)
      (mkCtx ds p cs a e depT arrT) := by
  refine ⟨rfl, rfl, rfl, rfl, rfl, rfl, rfl, ?_⟩
  intro t ht
  simp only [mkCtx, queryDisabled] at ht ⊢
  cases hc : p.exceptLines.contains (ds.lineOfTrip t) with
  | false => rfl
  | true =>
    have : (p.exceptLines ++ comb).contains (ds.lineOfTrip t) = true := by
      rw [List.contains_iff_mem] at hc ⊢
      exact List.mem_append_left _ hc
    rw [this] at ht; cases ht

def AltFrom (ds : Dataset) (cs : ConnSet) (pAlt : Params) (base : List Nat) (a e : List NTD) (r0 : Route) (st : AltState) : Prop :=
  ∀ r ∈ st.routes, r = r0 ∨ ∃ comb, calculateSingleWith ds cs { pAlt with exceptLines := base ++ comb } a e = .ok r

theorem altLoop_from (ds : Dataset) (r0 : Route) (cs : ConnSet) (pAlt : Params) (base : List Nat) (a e : List NTD) :
    ∀ (fuel i : Nat) (st st' : AltState), AltFrom ds cs pAlt base a e r0 st →
      altLoop ds cs pAlt base a e fuel i st = .ok st' → AltFrom ds cs pAlt base a e r0 st' := by
  exact altLoop_invariant (fun rs _ _ _ => ∀ r ∈ rs, r = r0 ∨
      ∃ comb, calculateSingleWith ds cs { pAlt with exceptLines := base ++ comb } a e = .ok r) ds cs pAlt base a e
    (fun _ _ _ _ h => h)
    (fun _ _ _ _ comb r h _ hr _ r' hr' => (List.mem_append.mp hr').elim (h r')
      fun h1 => Or.inr ⟨comb, List.mem_singleton.mp h1 ▸ hr⟩)

theorem altMaxTravelTime_le (p : Params) (r : Route) : altMaxTravelTime p r ≤ p.maxTotal := by
  unfold altMaxTravelTime
  simp only
  split <;> omega

theorem alternatives_from (ds : Dataset) (p : Params) {rs : List Route} {n : Nat}
    (h : alternativesRouting ds p = .ok (rs, n)) :
    ∃ r0, calculateSingle ds p = .ok r0 ∧ ∀ r ∈ rs, r = r0 ∨ ∃ comb,
      calculateSingleWith (ds.restrict (ds.connSetOf (ds.scenarioOf p))) (ds.connSetOf (ds.scenarioOf p))
        { p with maxTotal := altMaxTravelTime p r0, exceptLines := p.exceptLines ++ comb }
        (routerLookup ds.access p.maxAccess) (routerLookup ds.egress p.maxEgress) = .ok r := by
  obtain ⟨r0, st, h0, hl, rfl, _⟩ := alternativesRoutingCS_ok (show alternativesRoutingCS ds _ p = .ok (rs, n) from h)
  -- `have` first: against the goal, `exact` would compare two 100000-step `altLoop`s by unfolding them
  have hfin := altLoop_from _ r0 _ _ _ _ _ _ _ _ _ (fun r hr => Or.inl (List.mem_singleton.mp hr)) hl
  exact ⟨r0, h0, hfin⟩

theorem alternatives_head (ds : Dataset) (p : Params) {rs : List Route} {n : Nat}
    (h : alternativesRouting ds p = .ok (rs, n)) {r0 : Route} (hr0 : calculateSingle ds p = .ok r0) :
    rs.head? = some r0 := by
  have hc := C10_alternatives ds (ds.connSetOf (ds.scenarioOf p)) p
  simp only at hc
  rw [show alternativesRoutingCS ds (ds.connSetOf (ds.scenarioOf p)) p = .ok (rs, n) from h] at hc
  obtain ⟨⟨r0', rest, hrs, hpl⟩, _⟩ := hc
  rw [show calculateSingleCS ds (ds.connSetOf (ds.scenarioOf p)) p = .ok r0 from hr0] at hpl
  cases hpl
  rw [hrs]; rfl

/-- What holds of the answer of every recalculation of the query - more lines excluded, a `max_travel_time` not above
    the query's - holds of every route of an alternatives answer; the plain answer is the recalculation that changes
    nothing. -/
theorem alternatives_forall (ds : Dataset) (p : Params) {rs : List Route} {n : Nat}
    (h : alternativesRouting ds p = .ok (rs, n)) (Φ : Route → Prop)
    (hΦ : ∀ M, M ≤ p.maxTotal → ∀ comb r,
      calculateSingleWith (ds.restrict (ds.connSetOf (ds.scenarioOf p))) (ds.connSetOf (ds.scenarioOf p))
        { p with maxTotal := M, exceptLines := p.exceptLines ++ comb }
        (routerLookup ds.access p.maxAccess) (routerLookup ds.egress p.maxEgress) = .ok r → Φ r) :
    ∀ r ∈ rs, Φ r := by
  obtain ⟨r0, hr0, hall⟩ := alternatives_from ds p h
  intro r hr
  rcases hall r hr with rfl | ⟨comb, hc⟩
  · refine hΦ p.maxTotal (Int.le_refl _) [] r ?_
    rw [List.append_nil]; exact hr0
  · exact hΦ _ (altMaxTravelTime_le p r0) comb r hc

/-- **C10 (e), departure-time queries.** On the domain of C03 no route of the alternatives answer
    arrives earlier than the plain answer `routes[0]`. -/
theorem C10_no_better_forward (ds : Dataset) (hwf : WFData ds) (p : Params) (hp : p.forward = true) (hmw : 0 ≤ p.minWait)
    (hmt : 0 ≤ p.maxTransfer) (hpos : PosHops ds) (hself : SelfFootArr ds) (hb : TimesBounded ds) (hba : ArrBounded ds)
    (hcap : p.maxFirstWait < 0)
    (hacc : ∀ a ∈ ds.access, 0 ≤ a.time) (hand : (ds.access.map (·.stop)).Nodup)
    (hegr : ∀ g ∈ ds.egress, 0 ≤ g.time) (hend : (ds.egress.map (·.stop)).Nodup)
    (h0 : 0 ≤ p.time) (ht : p.time < (HOUR_END : Int) * 3600)
    {rs : List Route} {n : Nat} (h : alternativesRouting ds p = .ok (rs, n)) :
    ∃ r0, calculateSingle ds p = .ok r0 ∧ rs.head? = some r0 ∧ ∀ r ∈ rs, r0.arrivalTime ≤ r.arrivalTime := by
  obtain ⟨r0, hr0, _⟩ := alternatives_from ds p h
  refine ⟨r0, hr0, alternatives_head ds p h hr0, alternatives_forall ds p h _ fun M hM comb r hc => ?_⟩
  -- `r` is admissible for the recalculation, hence for the query, whose optimal answer is `r0`
  obtain ⟨ec, xc, g, hAdm, harr, hspan, _⟩ := calcWith_attained_fwd ds hwf (ds.scenarioOf p)
    { p with maxTotal := M, exceptLines := p.exceptLines ++ comb } hp hmw hmt _ _ (routerLookup_nodup _ _ hend) hc
  have hT : xc.arr + g.time - p.time ≤ p.maxTotal := by
    have : r.arrivalTime - p.time ≤ M := hspan
    omega
  have := (C03_optimal ds hwf p hp hmw hmt hpos hself hb hba hcap hacc hand hegr hend h0 ht
    (hAdm.ctxLe (ctxLe_alt _ p _ _ _ p.time (-1) M comb)) hT).1 r0 hr0
  omega

/-- **C10 (e), arrival-time queries.** On the domain of C04 no route of the alternatives answer
    departs later than the plain answer `routes[0]`. -/
theorem C10_no_better_reverse (ds : Dataset) (hwf : WFData ds) (p : Params) (hp : p.forward = false) (hmw : 0 ≤ p.minWait)
    (hmt : 0 ≤ p.maxTransfer) (hpos : PosHops ds) (hb : TimesBounded ds)
    (hegr : ∀ g ∈ ds.egress, 0 ≤ g.time) (hend : (ds.egress.map (·.stop)).Nodup)
    (hacc : ∀ a ∈ ds.access, 0 ≤ a.time) (hand : (ds.access.map (·.stop)).Nodup) (h0 : 0 ≤ p.time)
    {rs : List Route} {n : Nat} (h : alternativesRouting ds p = .ok (rs, n)) :
    ∃ r0, calculateSingle ds p = .ok r0 ∧ rs.head? = some r0 ∧ ∀ r ∈ rs, r.departureTime ≤ r0.departureTime := by
  obtain ⟨r0, hr0, _⟩ := alternatives_from ds p h
  refine ⟨r0, hr0, alternatives_head ds p h hr0, alternatives_forall ds p h _ fun M hM comb r hc => ?_⟩
  obtain ⟨a0, e0, x0, hAdm, hdep, hd0, hspan, _⟩ := calcWith_attained_rev ds hwf (ds.scenarioOf p)
    { p with maxTotal := M, exceptLines := p.exceptLines ++ comb } hp hmw hmt _ _ (routerLookup_nodup _ _ hend) hc
  have hsp : p.time - r.departureTime ≤ M := hspan
  have hdep' : r.departureTime ≤ e0.dep - e0.effWait p.minWait - a0.time := hdep
  have := (C04_optimal ds hwf p hp hmw hmt hpos hb hegr hend hacc hand h0
    (hAdm.ctxLe (ctxLe_alt _ p _ _ _ (-1) p.time M comb)) (by omega) (by omega)).1 r0 hr0
  omega

/-- **C10 (c), time limits of the ORIGINAL query.** Every route of an alternatives answer - also
    the ones calculated with the reduced `max_travel_time` - keeps the original query's limits:
    a departure-time answer never leaves before the requested time and arrives within
    max_travel_time of it; an arrival-time answer never arrives after the requested time, leaves
    within max_travel_time before it and not before 0:00. -/
theorem C10_alt_times (ds : Dataset) (hwf : WFData ds) (p : Params) (hmw : 0 ≤ p.minWait) (hmt : 0 ≤ p.maxTransfer)
    (hend : (ds.egress.map (·.stop)).Nodup) {rs : List Route} {n : Nat} (h : alternativesRouting ds p = .ok (rs, n)) :
    ∀ r ∈ rs,
      (p.forward = true → p.time ≤ r.departureTime ∧ r.arrivalTime - p.time ≤ p.maxTotal) ∧
      (p.forward = false → r.arrivalTime ≤ p.time ∧ p.time - r.departureTime ≤ p.maxTotal ∧ 0 ≤ r.departureTime) :=
  alternatives_forall ds p h _ fun M hM comb r hc => by
    obtain ⟨t1, t2, t3⟩ := calcWith_times hwf (ds.scenarioOf p) { p with maxTotal := M, exceptLines := p.exceptLines ++ comb } hmw hmt _ _ hc
    obtain ⟨a1, a2⟩ := calcWith_arrival hwf (ds.scenarioOf p) { p with maxTotal := M, exceptLines := p.exceptLines ++ comb } hmw hmt _ _ (routerLookup_nodup _ _ hend) hc
    refine ⟨fun hf => ⟨t2 hf, ?_⟩, fun hf => ⟨a1 hf, ?_, t1⟩⟩
    · have : r.arrivalTime - p.time ≤ M := a2 hf
      omega
    · have : p.time - r.departureTime ≤ M := t3 hf
      omega

/-- **C10 (c), scenario and walk limits of the ORIGINAL query.** Every route of an alternatives
    answer rides only hops of the scenario's connection set, walks what the router offers within
    the query's access / egress maxima (the tables of the first calculation are reused), and makes
    no transfer walk longer than the transfer maximum. -/
theorem C10_alt_limits (ds : Dataset) (hwf : WFData ds) (p : Params) (hmw : 0 ≤ p.minWait) (hmt : 0 ≤ p.maxTransfer)
    {rs : List Route} {n : Nat} (h : alternativesRouting ds p = .ok (rs, n)) :
    ∀ r ∈ rs,
      ValidItinerary (ds.connSetOf (ds.scenarioOf p)).rev ds.foot
        (routerLookup ds.access p.maxAccess) (routerLookup ds.egress p.maxEgress) (ds.mwOfTrip p) r ∧
      transferWalksWithin p.maxTransfer r.steps :=
  alternatives_forall ds p h _ fun M _ comb _ hc =>
    calcWith_limits hwf (ds.scenarioOf p) { p with maxTotal := M, exceptLines := p.exceptLines ++ comb } hmw hmt _ _ hc

/-- **C10 (c), first-waiting cap of the ORIGINAL query** for every route of an alternatives answer
    to a departure-time query -/
theorem C10_alt_first_wait (ds : Dataset) (hwf : WFData ds) (p : Params) (hmw : 0 ≤ p.minWait) (hmt : 0 ≤ p.maxTransfer)
    (hf : p.forward = true) (hd : p.time ≠ -1) {rs : List Route} {n : Nat} (h : alternativesRouting ds p = .ok (rs, n)) :
    ∀ r ∈ rs, ∃ w d t0 t1 t2 trip seq stop dep wait rest,
      r.steps = .walk 0 w d t0 t1 t2 :: .board trip seq stop dep wait :: rest ∧
      (p.maxFirstWait < ds.mwOfTrip p trip ∨ dep - p.time - w ≤ p.maxFirstWait) :=
  alternatives_forall ds p h _ fun M _ comb _ hc =>
    calcWith_first_wait ds hwf (ds.scenarioOf p) { p with maxTotal := M, exceptLines := p.exceptLines ++ comb } hmw hmt _ _ hc hf hd

/-- **C10 (c), totals (C06)** for every route of an alternatives answer -/
theorem C10_alt_totals (ds : Dataset) (hwf : WFData ds) (p : Params) (hmw : 0 ≤ p.minWait) (hmt : 0 ≤ p.maxTransfer)
    {rs : List Route} {n : Nat} (h : alternativesRouting ds p = .ok (rs, n)) :
    ∀ r ∈ rs, ∃ legs : List JStep, Totals (ds.mwOfTrip p) (NoXfer (ds.restrict (ds.connSetOf (ds.scenarioOf p))) legs) r :=
  alternatives_forall ds p h _ fun M _ comb _ hc =>
    let ⟨_, _, legs, _, _, ht⟩ := calcWith_totals hwf (ds.scenarioOf p)
      { p with maxTotal := M, exceptLines := p.exceptLines ++ comb } hmw hmt _ _ hc
    ⟨legs, ht⟩

end Tr
