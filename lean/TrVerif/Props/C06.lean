/-
  Property C06 — reported totals are exactly the sums over the itinerary's steps.

  `C06_totals` is about `emit`, the model of the single pass of `reverse_journey.cpp:78-262`
  that renders a journey and accumulates the totals.  It holds for EVERY journey value of the
  form  access step, at least one leg, egress step - not only for journeys the scans can
  produce - so clean-up rewrites, alternatives, any dataset and any query are covered at once.
-/
import TrVerif.Proofs.Emit
import TrVerif.Props.C01
namespace Tr

/-- **C06.** For every access step `acc`, every non-empty list of legs (each with an enter and
    an exit connection) and every egress step `egr`, whatever the connections' times, the walks
    and the dataset: the route rendered by `emit` satisfies all identities of `Totals`.
    `mwOf` is the minimum waiting time in force per trip (the hypothesis says the legs'
    connections carry exactly that value - true of every connection built from a dataset). -/
theorem C06_totals (ds : Dataset) (mw bestDep : Int) (mwOf : Nat → Int)
    (acc egr : JStep) (legs : List JStep)
    (hacc : acc.enter = none) (hegr : egr.enter = none)
    (hne : legs ≠ []) (hall : AllLegs legs)
    (hmw : ∀ l ∈ legs, ∀ e, l.enter = some e → e.effWait mw = mwOf e.trip) :
    Totals mwOf (NoXfer ds legs) (emit ds mw bestDep ([acc] ++ legs ++ [egr])) := by
  obtain ⟨l1, rest, rfl⟩ := List.exists_cons_of_ne_nil hne
  obtain ⟨e1, x1, he1, hx1⟩ := hall l1 (List.mem_cons_self ..)
  obtain ⟨a', ha', rel, harr, hegw, haw, htw⟩ := emit_loop ds mw bestDep acc egr (l1 :: rest) hacc hegr hne hall
  have hS := stepsOfLegs_sum ds mw egr (l1 :: rest) (bestDep + acc.walk) hne hall
  have hcount := stepsOfLegs_count ds mw egr (l1 :: rest) (bestDep + acc.walk) hne hall
  have hfw := stepsOfLegs_firstWait ds mw egr (l1 :: rest) (bestDep + acc.walk) hne hall
  obtain ⟨tl, hhead⟩ := stepsOfLegs_head ds mw egr l1 rest (bestDep + acc.walk) e1 x1 he1 hx1
  obtain ⟨la, lb, hlast⟩ := stepsOfLegs_getLast ds mw egr (l1 :: rest) (bestDep + acc.walk) hne hall
  have hm1 : e1.effWait mw = mwOf e1.trip := hmw l1 (List.mem_cons_self ..) e1 he1
  generalize hS' : stepsOfLegs ds mw (bestDep + acc.walk) (l1 :: rest) egr = S at *
  have hstepsAll : a'.steps
      = .walk 0 acc.walk acc.dist bestDep (bestDep + acc.walk) (bestDep + acc.walk + nextWaitOf mw (some l1)) :: S := by
    rw [rel.steps]; rfl
  have hShape := stepsOfLegs_shape ds mw egr (l1 :: rest) (bestDep + acc.walk) hne hall
  have hChain := stepsOfLegs_chain ds mw mwOf egr (l1 :: rest) (bestDep + acc.walk) hne hall hmw
  rw [hS'] at hShape hChain
  have hSne : S ≠ [] := by intro h; rw [h] at hhead; simp at hhead
  -- the route in terms of the accumulators after the access step and the rendered legs `S`
  simp only [emit, ha', hstepsAll, harr, haw, htw, hegw, rel.wait, rel.ivt, rel.accessWalk]
  constructor
  case shape => exact hShape
  case chain =>
    simp only [chainFrom]
    refine ⟨trivial, trivial, ?_, hChain⟩
    intro _ trip seq stop bd w hh
    rw [hhead] at hh
    simp [boardOf] at hh
    simp [nextWaitOf, he1, hm1, hh.1]
  case travel => trivial
  case travelSum =>
    simp only [sumWalk, sumRide, sumWait, List.map_cons, List.sum_cons, Step.walkTime, Step.rideTime, Step.waitTime] at hS ⊢
    omega
  case waiting => simp [emitAccess]; omega
  case waitSum => simp [emitAccess, sumWait, Step.waitTime]
  case firstW => rw [← hfw]; simp [firstWait, List.filter, Step.isBoard]
  case inVehicle => simp [emitAccess, sumRide, Step.rideTime]
  case access => simp [emitAccess, Step.walkTime]
  case egress => rw [List.getLast?_cons_of_ne_nil hSne, hlast]; simp [Step.walkTime]
  case boardings => intro hx; rw [rel.nt hx]; simp [emitAccess]; omega
  case transfers =>
    intro hx
    rw [rel.nt hx]
    have : (1 : Int) ≤ countBoard S := by rw [hcount]; simp; omega
    simp [emitAccess]
    split <;> omega
  case walking => intro hx; rw [rel.walk hx]; simp [emitAccess, sumWalk, Step.walkTime]
  case transferWalking => intro hx; rw [rel.twalk hx]; simp [emitAccess, sumTransferWalk, Step.transferWalkTime]

/-! Non-vacuity: a concrete two-leg journey meets every hypothesis, and the rendered route is the
    one a reader expects. -/
def exE1 : Conn := { depStop := 0, arrStop := 1, dep := 1000, arr := 1100, trip := 7, seq := 1, canBoard := true, canUnboard := true, minWait := -1 }
def exE2 : Conn := { depStop := 2, arrStop := 3, dep := 1500, arr := 1700, trip := 9, seq := 2, canBoard := true, canUnboard := true, minWait := -1 }
def exLegs : List JStep := [{ enter := some exE1, exit := some exE1, walk := 120, dist := 90 }, { enter := some exE2, exit := some exE2, walk := 0, dist := 0 }]

example : exLegs ≠ [] ∧ AllLegs exLegs ∧ (∀ l ∈ exLegs, ∀ e, l.enter = some e → e.effWait 180 = (fun _ => (180 : Int)) e.trip) := by
  refine ⟨by decide, ?_, ?_⟩
  · intro l hl; simp [exLegs] at hl; rcases hl with rfl | rfl <;> exact ⟨_, _, rfl, rfl⟩
  · intro l hl e he; simp [exLegs] at hl; rcases hl with rfl | rfl <;> (simp at he; subst he; decide)

example : (emit Dataset.empty 180 700 ([{ walk := 60, dist := 50 }] ++ exLegs ++ [{ walk := 30, dist := 20 }])).totalTravelTime = 1030 := by decide

theorem calcWith_totals {ds : Dataset} (hwf : WFData ds) (sc : Scenario) (p : Params) (hmw : 0 ≤ p.minWait)
    (hmt : 0 ≤ p.maxTransfer) (a e : List NTD) {r : Route}
    (h : calculateSingleWith (ds.restrict (ds.connSetOf sc)) (ds.connSetOf sc) p a e = .ok r) :
    ∃ bd acc legs egr, r = emit (ds.restrict (ds.connSetOf sc)) p.minWait bd ([acc] ++ legs ++ [egr]) ∧
      Totals (ds.mwOfTrip p) (NoXfer (ds.restrict (ds.connSetOf sc)) legs) r := by
  obtain ⟨depT, arrT, bd, j, rfl, hJ, _⟩ := calcWith_journey hwf sc p hmw hmt a e h
  obtain ⟨acc, legs, egr, rfl, hacc, hegr, hne, hok, _, _⟩ := hJ
  exact ⟨bd, acc, legs, egr, rfl, C06_totals _ p.minWait bd (ds.mwOfTrip p) acc egr legs hacc hegr hne hok.allLegs
    (fun l hl e he => (allowed_conns hwf sc p _ e (hok.mem_enter l hl e he)).2)⟩

/-- **C06 for every returned route.**  Every route the single calculation returns on a
    well-formed dataset satisfies all identities of `Totals`, with the minimum waiting time in
    force per trip (`mwOfTrip`: 0 for `transferable` lines, the query's value otherwise); the
    counts and walking totals hold when the journey rides no `transferable` line. -/
theorem C06_route (ds : Dataset) (hwf : WFData ds) (p : Params) (hmw : 0 ≤ p.minWait) (hmt : 0 ≤ p.maxTransfer)
    {r : Route} (h : calculateSingle ds p = .ok r) :
    ∃ legs : List JStep, Totals (ds.mwOfTrip p) (NoXfer (ds.restrict (ds.connSetOf (ds.scenarioOf p))) legs) r :=
  let ⟨_, _, legs, _, _, ht⟩ := calcWith_totals hwf (ds.scenarioOf p) p hmw hmt _ _ h
  ⟨legs, ht⟩

end Tr
