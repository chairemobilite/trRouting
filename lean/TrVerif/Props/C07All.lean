/- Property C07, all of it: importing this module brings in every theorem that decides part of the reason of a failed query. -/
import TrVerif.Props.C07SecondPass
