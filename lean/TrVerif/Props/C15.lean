/-
  Property C15 — after a completed /updateCache of all caches, or of the schedules (with or
  without the scenarios) alone, the server answers like one freshly started on the files now on
  disk.

  Stated as an equality of *server states*: whatever was in memory before, the state after the
  refresh is the state `Live.start` builds from the files; every later answer then coincides
  (`C15_answers`).

  What the model assumes (DESIGN 0.1/0.2): the loaders are faithful (C16), a refresh runs while
  no request is in flight (the property's quantifier; C14 is about concurrency), and only files of
  the refreshed kinds changed on disk - for a schedules-only refresh the other kinds in memory
  are the ones on disk (hypothesis `SameElsewhere`; without it a fresh server would differ by
  definition).
-/
import TrVerif.Model.Refresh
namespace Tr

/-- the walking router is not part of the cache files: the same on both sides -/
def SameRouter (a b : Dataset) : Prop := a.access = b.access ∧ a.egress = b.egress

def SameElsewhere (mem disk : Dataset) (withScen : Bool) : Prop :=
  mem.nStops = disk.nStops ∧ mem.nAgencies = disk.nAgencies ∧ mem.nServices = disk.nServices ∧
  mem.foot = disk.foot ∧ mem.lines = disk.lines ∧ mem.paths = disk.paths ∧
  (withScen = false → mem.scenarios = disk.scenarios)

theorem server_clear_eq (s : Server) : s.clear = Server.init s.cacheAll := rfl

/-- the state once the update calls in `S` have run, in any order and any number of times -/
def Live.refreshed (disk : Dataset) (S : String → Bool) (l : Live) : Live :=
  { ds := { l.ds with
      nAgencies := if S "updateAgencies" then disk.nAgencies else l.ds.nAgencies,
      nServices := if S "updateServices" then disk.nServices else l.ds.nServices,
      nStops := if S "updateNodes" then disk.nStops else l.ds.nStops,
      foot := if S "updateNodes" then disk.foot else l.ds.foot,
      lines := if S "updateLines" then disk.lines else l.ds.lines,
      paths := if S "updatePaths" then disk.paths else l.ds.paths,
      scenarios := if S "updateScenarios" then disk.scenarios else l.ds.scenarios,
      trips := if S "updateSchedules" then disk.trips else l.ds.trips },
    srv := { l.srv with cache := if S "updateScenarios" || S "updateSchedules" then [] else l.srv.cache },
    status := l.status }

theorem applyUpdate_eq (disk : Dataset) (fn : String) (l : Live) :
    applyUpdate disk fn l = l.refreshed disk fun f => decide (f = fn) := by
  by_cases h : fn ∈ ["updateAgencies", "updateServices", "updateNodes", "updateLines", "updatePaths", "updateScenarios", "updateSchedules"]
  · simp only [List.mem_cons, List.not_mem_nil, or_false] at h
    rcases h with rfl | rfl | rfl | rfl | rfl | rfl | rfl <;>
      simp only [applyUpdate, Live.refreshed, String.reduceEq, decide_true, decide_false, Bool.false_eq_true, Bool.or_false,
        Bool.false_or, if_true, if_false] <;> rfl
  · simp only [List.mem_cons, List.not_mem_nil, or_false, not_or] at h
    simp only [applyUpdate, Live.refreshed, h, eq_comm (b := fn), decide_false, Bool.false_eq_true, Bool.or_false, if_false]

theorem ite_ite_bor {α} (a b : Bool) (x y : α) : (if b then x else if a then x else y) = if a || b then x else y := by
  cases a <;> cases b <;> rfl

theorem Live.refreshed_refreshed (disk : Dataset) (S T : String → Bool) (l : Live) :
    (l.refreshed disk S).refreshed disk T = l.refreshed disk fun fn => S fn || T fn := by
  -- field by field `ite_ite_bor`; the two tests of the cache come out as the same disjunction in another order
  simp only [Live.refreshed, ite_ite_bor, Bool.or_left_comm, Bool.or_comm]

theorem Live.refreshed_if (disk : Dataset) (c : Prop) [Decidable c] (S : String → Bool) (l : Live) :
    (if c then l.refreshed disk S else l) = l.refreshed disk fun fn => decide c && S fn := by
  split
  · simp only [*, decide_true, Bool.true_and]
  · simp only [*, decide_false, Bool.false_and]; rfl

theorem Live.foldl_refreshed {α} (disk : Dataset) (c : α → String → Bool) (xs : List α) (l : Live) :
    xs.foldl (fun l x => l.refreshed disk (c x)) l = l.refreshed disk fun fn => xs.any (c · fn) := by
  induction xs generalizing l with
  | nil => rfl
  | cons x xs ih => rw [List.foldl_cons, ih, Live.refreshed_refreshed]; rfl

/-- the handler makes the update call `fn` for one of `names` -/
def calls (names : List String) (fn : String) : Bool :=
  names.any fun n => Gen.updateCacheNames.any fun p => decide (n = p.1 ∨ n = "all") && decide (fn = p.2)

theorem foldl_updateName (disk : Dataset) (names : List String) (l : Live) :
    names.foldl (updateName disk) l = l.refreshed disk (calls names) := by
  have h : updateName disk = fun l n => l.refreshed disk fun fn =>
      Gen.updateCacheNames.any fun p => decide (n = p.1 ∨ n = "all") && decide (fn = p.2) := by
    funext l n
    simp only [updateName, applyUpdate_eq, Live.refreshed_if]
    exact Live.foldl_refreshed disk _ _ l
  rw [h]
  exact Live.foldl_refreshed disk _ names l

/-- an entry of the handler's table is read by its position, which compares no strings -/
theorem calls_of {names : List String} {i : Nat} {k fn : String} (hp : Gen.updateCacheNames[i]? = some (k, fn))
    (h : "all" ∈ names ∨ k ∈ names) : calls names fn = true := by
  have hm := List.mem_of_getElem? hp
  rcases h with h | h <;> exact List.any_eq_true.2 ⟨_, h, List.any_eq_true.2 ⟨_, hm, by simp⟩⟩

theorem ite_calls {α} {names : List String} {i : Nat} {k fn : String} {x y : α} (hp : Gen.updateCacheNames[i]? = some (k, fn))
    (h : "all" ∈ names ∨ k ∈ names ∨ y = x) : (if calls names fn then x else y) = x := by
  rcases h with h | h | h
  · exact if_pos (calls_of hp (.inl h))
  · exact if_pos (calls_of hp (.inr h))
  · rw [h]; exact ite_self x

/-- **C15 for any names**: the refresh leaves the state of a fresh start as soon as it re-reads the schedules and
    every kind it does not re-read is the one on disk already. -/
theorem updateCache_eq_start (disk : Dataset) (l : Live) (names : List String) (hr : SameRouter l.ds disk)
    (hA : "all" ∈ names ∨ "agencies" ∈ names ∨ l.ds.nAgencies = disk.nAgencies)
    (hS : "all" ∈ names ∨ "services" ∈ names ∨ l.ds.nServices = disk.nServices)
    (hN : "all" ∈ names ∨ "nodes" ∈ names ∨ l.ds.nStops = disk.nStops)
    (hF : "all" ∈ names ∨ "nodes" ∈ names ∨ l.ds.foot = disk.foot)
    (hL : "all" ∈ names ∨ "lines" ∈ names ∨ l.ds.lines = disk.lines)
    (hP : "all" ∈ names ∨ "paths" ∈ names ∨ l.ds.paths = disk.paths)
    (hC : "all" ∈ names ∨ "scenarios" ∈ names ∨ l.ds.scenarios = disk.scenarios)
    (hT : "all" ∈ names ∨ "schedules" ∈ names) :
    updateCache disk l names = Live.start disk l.srv.cacheAll := by
  have hk : names.any knownName = true := by
    rcases hT with h | h
    · exact List.any_eq_true.2 ⟨_, h, rfl⟩
    · exact List.any_eq_true.2 ⟨_, h, by decide⟩
  have hc : calls names "updateSchedules" = true := calls_of (i := 9) rfl hT
  rw [updateCache, if_pos hk, foldl_updateName]
  simp only [Live.refreshed, ite_calls (i := 3) rfl hA, ite_calls (i := 4) rfl hS, ite_calls (i := 5) rfl hN, ite_calls (i := 5) rfl hF,
    ite_calls (i := 6) rfl hL, ite_calls (i := 7) rfl hP, ite_calls (i := 8) rfl hC, hc, Bool.or_true, if_true, hr.1, hr.2]
  rfl

/-- **C15, names=all**: only the walking router and the cache kind survive a refresh of all caches. -/
theorem C15_all (disk : Dataset) (l : Live) (hr : SameRouter l.ds disk) :
    updateCache disk l ["all"] = Live.start disk l.srv.cacheAll :=
  have h : "all" ∈ ["all"] := List.mem_singleton_self _
  updateCache_eq_start disk l _ hr (.inl h) (.inl h) (.inl h) (.inl h) (.inl h) (.inl h) (.inl h) (.inl h)

theorem clear_clear (s : Server) : s.clear.clear = s.clear := rfl

/-- **C15, schedules with or without scenarios**, any order, any repetition. -/
theorem C15_schedules (disk : Dataset) (l : Live) (names : List String)
    (hn : ∀ n ∈ names, n = "schedules" ∨ n = "scenarios") (hs : "schedules" ∈ names)
    (hr : SameRouter l.ds disk) (he : SameElsewhere l.ds disk (decide ("scenarios" ∈ names))) :
    updateCache disk l names = Live.start disk l.srv.cacheAll := by
  obtain ⟨e1, e2, e3, e4, e5, e6, e7⟩ := he
  refine updateCache_eq_start disk l names hr (.inr (.inr e2)) (.inr (.inr e3)) (.inr (.inr e1)) (.inr (.inr e4))
    (.inr (.inr e5)) (.inr (.inr e6)) (.inr ?_) (.inr hs)
  by_cases h : "scenarios" ∈ names
  · exact .inl h
  · exact .inr (e7 (decide_eq_false h))

/-- the refreshes the property is about -/
def Covered (names : List String) : Prop :=
  names = ["all"] ∨ ((∀ n ∈ names, n = "schedules" ∨ n = "scenarios") ∧ "schedules" ∈ names)

/-- **C15.** After a covered refresh, every later request - after any later history, including
    requests for scenarios that were cached before the refresh - gets the answer of a server newly
    started on the files now on disk, and leaves the same state behind. -/
theorem C15_answers (disk : Dataset) (l : Live) (names : List String) (hc : Covered names)
    (hr : SameRouter l.ds disk)
    (he : names ≠ ["all"] → SameElsewhere l.ds disk (decide ("scenarios" ∈ names)))
    (hist : List Request) (req : Request) :
    ((updateCache disk l names).run hist).handle req = ((Live.start disk l.srv.cacheAll).run hist).handle req := by
  have hst : updateCache disk l names = Live.start disk l.srv.cacheAll := by
    rcases hc with h | ⟨hn, hs⟩
    · subst h; exact C15_all disk l hr
    · have hna : names ≠ ["all"] := by
        intro h; subst h
        rcases hn "all" (by simp) with h | h <;> exact absurd h (by decide)
      exact C15_schedules disk l names hn hs hr (he hna)
  rw [hst]

theorem C15_old_state_irrelevant (disk : Dataset) (l1 l2 : Live) (hca : l1.srv.cacheAll = l2.srv.cacheAll)
    (h1 : SameRouter l1.ds disk) (h2 : SameRouter l2.ds disk) :
    updateCache disk l1 ["all"] = updateCache disk l2 ["all"] := by
  rw [C15_all disk l1 h1, C15_all disk l2 h2, hca]

theorem C15_status (disk : Dataset) (l : Live) (names : List String) (hk : names.any knownName = true) :
    (updateCache disk l names).status = dataStatusOf (updateCache disk l names).ds := by
  unfold updateCache; simp [hk]

/-- structural facts the model rests on, read off the current source by the translator -/
theorem C15_structure :
    (["updateSchedules_clears_cache_first", "updateScenarios_clears_cache_first", "cache_one_clear_resets_entry",
      "cache_all_clear_empties_map", "updateCache_recomputes_data_status", "updateSchedules_regenerates_connections",
      "cache_touched_only_via_get_set"].all
        fun k => Gen.facts.lookup k == some true) = true := by decide +kernel

/-- the handler's call order refreshes every kind before the kinds that refer to it -/
theorem C15_order :
    (Gen.updateCacheNames.map (·.2)).filter (fun f => f ∈ ["updateAgencies", "updateServices", "updateNodes", "updateLines", "updatePaths", "updateScenarios", "updateSchedules"])
      = ["updateAgencies", "updateServices", "updateNodes", "updateLines", "updatePaths", "updateScenarios", "updateSchedules"] := by decide +kernel

/-- non-vacuity of the hypotheses: a stale cache entry and other trips in memory -/
example : ∃ l : Live, l.srv.cache ≠ [] ∧ SameRouter l.ds Dataset.empty ∧ SameElsewhere l.ds Dataset.empty false ∧ l.ds.trips ≠ Dataset.empty.trips :=
  ⟨{ ds := { Dataset.empty with trips := [default] }, srv := (Server.init false).set 0 (mkConnSet [] [] []), status := "READY" },
   by simp [Server.set, Server.init], ⟨rfl, rfl⟩, ⟨rfl, rfl, rfl, rfl, rfl, rfl, fun _ => rfl⟩, by simp [Dataset.empty]⟩

end Tr
