/-
  Non-vacuity of the hypotheses of C01 / C02 / C03 / C04 / C06 / C08 / C09 and of the domains of the
  C12 shift theorems: a concrete dataset that meets them, and on which both route calculations
  return a route and both accessibility calculations list a stop. (Tests of the model on one
  input, whose only role is to show that the theorems are not vacuous.)

  This module is also the one through which the checks of C03 - C05, C07 - C10 and C12 audit their theorems
  (`check/registry.py`): it imports every module that holds one of them, whether or not a proof below needs it.
-/
import TrVerif.Props.C09Complete
import TrVerif.Props.C04
import TrVerif.Props.C03
import TrVerif.Props.Attained
import TrVerif.Props.NoExc
import TrVerif.Props.C10e
import TrVerif.Props.C07All
import TrVerif.Props.C12
import TrVerif.Props.C12MapStatus
import TrVerif.Props.C12Window
namespace Tr

def nvDs : Dataset :=
  { nStops := 3, nServices := 1,
    foot := [⟨0, 0, 0, 0⟩, ⟨1, 1, 0, 0⟩, ⟨2, 2, 0, 0⟩, ⟨1, 2, 60, 50⟩],
    lines := [⟨0, 0⟩], paths := [⟨0, [0, 1], [10]⟩],
    trips := [⟨5, 0, 0, [1000, 1300], [1000, 1300], [true, true], [true, true]⟩],
    scenarios := [{ services := [0], onlyLines := [], exceptLines := [], onlyAgencies := [], exceptAgencies := [], onlyModes := [], exceptModes := [] }],
    access := [⟨0, 100, 80⟩], egress := [⟨1, 200, 150⟩] }

def nvRev : Params := { forward := false, time := 2000, scenario := 0, minWait := 60 }
def nvFwd : Params := { forward := true, time := 500, scenario := 0, minWait := 60, maxFirstWait := 0 }

theorem nv_results :
    (match calculateSingle nvDs nvRev with | .ok r => (r.departureTime, r.arrivalTime) | _ => (0, 0)) = (840, 1500) ∧
    (match calculateSingle nvDs nvFwd with | .ok r => (r.departureTime, r.arrivalTime) | _ => (0, 0)) = (840, 1500) ∧
    (match calculateAllNodes nvDs nvRev with | .ok (l, n) => (l.map (fun (a : AccNode) => (a.stop, a.nodeTime)), n) | _ => ([], 0)) = ([(0, 940)], 3) ∧
    (match calculateAllNodes nvDs nvFwd with | .ok (l, n) => (l.map (fun (a : AccNode) => (a.stop, a.nodeTime)), n) | _ => ([], 0)) = ([(1, 1300)], 3) := by
  refine ⟨by decide, by decide, by decide, by decide⟩

theorem nv_trips (tr : TripRec) (h : tr ∈ nvDs.trips) : tr.dep = tr.arr ∧ tr.arr.Pairwise (· ≤ ·) := by
  cases List.mem_singleton.mp h
  exact ⟨rfl, by decide⟩

theorem forall_nv_conns {P : Conn → Prop} : (∀ c ∈ nvDs.conns, P c) ↔ P ⟨0, 1, 1000, 1300, 5, 1, true, true, -1⟩ := by
  have h1 : nvDs.conns = [⟨0, 1, 1000, 1300, 5, 1, true, true, -1⟩] := by decide
  rw [h1]; simp

/-- the hypotheses of C01 / C02 / C06 / C08 / C09 hold of `nvDs` -/
theorem nv_hypotheses : WFData nvDs ∧ TimesBounded nvDs ∧ (nvDs.egress.map (·.stop)).Nodup :=
  ⟨(wfData_of_sorted_trips nv_trips (by decide) (by decide) (forall_nv_conns.mpr ⟨0, by decide⟩)).1,
    forall_nv_conns.mpr (by decide), by decide⟩

/-- the additional hypotheses of `C08_complete` / `C08_earliest` / `C07_route_no_service_from_origin` hold of `nvDs` and `nvFwd` -/
theorem nv_hypotheses_complete : PosHops nvDs ∧ SelfFootArr nvDs ∧ StopsInRange nvDs ∧ nvFwd.maxFirstWait ≤ 0 ∧
    (∀ a ∈ nvDs.access, 0 ≤ a.time) ∧ (nvDs.access.map (·.stop)).Nodup ∧ 0 ≤ nvFwd.time ∧ nvFwd.time < (HOUR_END : Int) * 3600 :=
  ⟨forall_nv_conns.mpr (by decide), forall_nv_conns.mpr ⟨0, by decide⟩, forall_nv_conns.mpr (by decide),
    by decide, by decide, by decide, by decide, by decide⟩

/-- the additional hypotheses of `C09_complete` / `C09_latest` hold of `nvDs` and `nvRev` -/
theorem nv_hypotheses_reverse : DepStopsInRange nvDs ∧ (∀ g ∈ nvDs.egress, 0 ≤ g.time) ∧ (nvDs.egress.map (·.stop)).Nodup ∧
    0 ≤ nvRev.time ∧ 0 ≤ nvRev.maxTransfer :=
  ⟨forall_nv_conns.mpr (by decide), by decide, by decide, by decide, by decide⟩

/-- the premises of `C04_optimal` can be met on `nvDs`: walk 100 s to stop 0, ride trip 5 from 1000 to 1300, walk 200 s
    from stop 1 -/
theorem nv_admissible :
    (∀ a ∈ nvDs.access, 0 ≤ a.time) ∧
    AdmRev (mkCtx (nvDs.restrict (nvDs.connSetOf (nvDs.scenarioOf nvRev))) nvRev (nvDs.connSetOf (nvDs.scenarioOf nvRev))
        (routerLookup nvDs.access nvRev.maxAccess) (routerLookup nvDs.egress nvRev.maxEgress) (-1) nvRev.time)
      (nvDs.connSetOf (nvDs.scenarioOf nvRev)).rev ⟨0, 100, 80⟩ ⟨0, 1, 1000, 1300, 5, 1, true, true, -1⟩ ⟨0, 1, 1000, 1300, 5, 1, true, true, -1⟩ := by
  have h2 : (nvDs.connSetOf (nvDs.scenarioOf nvRev)).rev = [⟨0, 1, 1000, 1300, 5, 1, true, true, -1⟩] := by decide
  refine ⟨by decide, ?_⟩
  · refine ⟨by decide, rfl, by rw [h2]; simp, by rw [h2]; simp, rfl, Nat.le_refl _, rfl, rfl, by decide, 1800, ?_, by decide⟩
    exact RReach.egress ⟨1, 200, 150⟩ (by decide)

def nvFwd2 : Params := { forward := true, time := 500, scenario := 0, minWait := 60, maxFirstWait := -1 }

/-- the premises of `C03_optimal` can be met on `nvDs`, for the request `nvFwd2` without first-waiting cap -/
theorem nv_admissible_forward :
    ArrBounded nvDs ∧ nvFwd2.maxFirstWait < 0 ∧
    AdmFwd (mkCtx (nvDs.restrict (nvDs.connSetOf (nvDs.scenarioOf nvFwd2))) nvFwd2 (nvDs.connSetOf (nvDs.scenarioOf nvFwd2))
        (routerLookup nvDs.access nvFwd2.maxAccess) (routerLookup nvDs.egress nvFwd2.maxEgress) nvFwd2.time (-1))
      (nvDs.connSetOf (nvDs.scenarioOf nvFwd2)).fwd ⟨0, 1, 1000, 1300, 5, 1, true, true, -1⟩ ⟨0, 1, 1000, 1300, 5, 1, true, true, -1⟩ ⟨1, 200, 150⟩ ∧
    (match calculateSingle nvDs nvFwd2 with | .ok r => (r.departureTime, r.arrivalTime) | _ => (0, 0)) = (840, 1500) := by
  have h2 : (nvDs.connSetOf (nvDs.scenarioOf nvFwd2)).fwd = [⟨0, 1, 1000, 1300, 5, 1, true, true, -1⟩] := by decide
  refine ⟨forall_nv_conns.mpr (by decide), by decide, ?_, by decide⟩
  · refine ⟨⟨rfl, rfl, 600, ?_, by decide⟩, by rw [h2]; simp, by rw [h2]; simp, rfl, Nat.le_refl _, rfl, by decide, rfl⟩
    exact Reach.access ⟨0, 100, 80⟩ (by decide)

/-- asked by `calculateAllNodes_no_exception` -/
theorem nv_nonneg : NonnegArr nvDs :=
  forall_nv_conns.mpr (by decide)

/-- the hypotheses of `C12_departure` / `C12_arrival`, with an offset of one hour -/
theorem nv_shift :
    C03Dom nvDs nvFwd2 ∧ C04Dom nvDs nvRev ∧ TripsAligned nvDs ∧ ShiftInRange nvDs nvFwd2 3600 ∧ ShiftInRange nvDs nvRev 3600 := by
  obtain ⟨hwf, htb, hend⟩ := nv_hypotheses
  obtain ⟨hpos, hself, hr1, _, hacc, hand, _, _⟩ := nv_hypotheses_complete
  obtain ⟨hr2, hegr, _, _, _⟩ := nv_hypotheses_reverse
  obtain ⟨hab, _, _, _⟩ := nv_admissible_forward
  have hal : TripsAligned nvDs := fun tr htr => by rw [(nv_trips tr htr).1]
  have htb' : TimesBounded (shiftDs 3600 nvDs) := (forall_conns_shift hal).mpr (forall_nv_conns.mpr (by decide))
  have hab' : ArrBounded (shiftDs 3600 nvDs) := (forall_conns_shift hal).mpr (forall_nv_conns.mpr (by decide))
  exact ⟨⟨hwf, rfl, by decide, by decide, hpos, hself, htb, hab, hr1, hr2, by decide, hacc, hand, hegr, hend, by decide, by decide⟩,
    ⟨hwf, rfl, by decide, by decide, hpos, htb, hr1, hr2, hegr, hend, hacc, hand, by decide⟩,
    hal, ⟨htb', hab', by decide, by decide⟩, ⟨htb', hab', by decide, by decide⟩⟩

/-- the domains of `C12_map_departure` / `C12_map_arrival` hold of `nvDs` -/
theorem nv_shift_maps : C08Dom nvDs nvFwd2 ∧ C09Dom nvDs nvRev := by
  obtain ⟨hwf, htb, hend⟩ := nv_hypotheses
  obtain ⟨hpos, hself, hr1, _, hacc, hand, _, _⟩ := nv_hypotheses_complete
  obtain ⟨hr2, hegr, _, _, _⟩ := nv_hypotheses_reverse
  exact ⟨⟨hwf, rfl, by decide, by decide, htb, hpos, hself, hr1, by decide, hacc, hand, by decide, by decide⟩,
    ⟨hwf, rfl, by decide, by decide, hpos, hr2, hegr, hend, by decide, rfl⟩⟩

/-- asked by `C12_arrival_reason` and `C12_map_status_*` -/
theorem nv_shift_nonneg : NonnegArr (shiftDs 3600 nvDs) :=
  (forall_conns_shift nv_shift.2.2.1).mpr (forall_nv_conns.mpr (by decide))

end Tr
