/-
  Property C18 (partial) — the parts of "every request gets one well-formed, correctly classified
  response" that are logic: the hour-index look-ups never read outside the index for ANY time
  value and ANY connection list, parameter normalisation, and the finite tables (error codes,
  documented enums, /updateCache names) re-read from the source by the translator.
  Transport (exactly one response, Content-Length) is Simple-Web-Server's and is observed over raw
  sockets by the check, not modelled.

  The index-safety theorem `C18_index_safe` stands with the other facts about the hour indexes in
  `Proofs/HourIndex.lean`.
-/
import TrVerif.Proofs.HourIndex
import TrVerif.Generated.Tables
namespace Tr

/-- the constants of the guard of the forward look-up, read from the source on every run: it rejects
    from `hourEnd` on, the first hour is 0, and `hourEnd` is the model's `HOUR_END` (slots 0..31) -/
theorem C18_forward_guard : Gen.fwdGuardRejectsFrom = Gen.hourEnd ∧ Gen.hourBegin = 0 ∧ Gen.hourEnd = HOUR_END := ⟨rfl, rfl, rfl⟩

/-- every error code the handlers can put into a `query_error` or `data_error` answer is a
    documented one -/
theorem C18_codes_documented :
    (Gen.paramErrorCodes.all fun kv => Gen.documentedCodes.contains kv.2) = true ∧
    (Gen.dataStatusCodes.all fun kv => kv.2 == "" || Gen.documentedCodes.contains kv.2) = true := by decide +kernel

/-- every kind of parameter defect the parsers can raise is answered with its own specific
    documented code, never with the catch-all `PARAM_ERROR_UNKNOWN` -/
theorem C18_codes_specific :
    (Gen.paramErrorCodes.all fun kv => kv.2 != "PARAM_ERROR_UNKNOWN") = true ∧
    Gen.paramErrorCodes.lookup "MISSING_PLACE" = some "MISSING_PARAM_PLACE" ∧
    Gen.paramErrorCodes.lookup "INVALID_PLACE" = some "INVALID_PLACE" ∧
    Gen.paramErrorCodes.lookup "INVALID_NUMERICAL_DATA" = some "INVALID_NUMERICAL_DATA" ∧
    Gen.paramErrorCodes.lookup "MISSING_SCENARIO" = some "MISSING_PARAM_SCENARIO" := by decide +kernel

/-- documented defaults and the "non-positive means no limit" normalisation -/
theorem C18_defaults :
    Gen.DEFAULT_MIN_WAITING_TIME = 180 ∧ Gen.DEFAULT_MAX_ACCESS_TRAVEL_TIME = 1200 ∧
    Gen.DEFAULT_MAX_EGRESS_TRAVEL_TIME = 1200 ∧ Gen.DEFAULT_MAX_TRANSFER_TRAVEL_TIME = 1200 ∧
    Gen.DEFAULT_FIRST_WAITING_TIME = 1800 ∧
    Gen.normalisation = [("time_of_trip", "<", "-1"), ("min_waiting_time", "<", "0"),
      ("max_travel_time", "<=", "MAX_INT"), ("max_access_travel_time", "<=", "MAX_INT"),
      ("max_egress_travel_time", "<=", "MAX_INT"), ("max_transfer_travel_time", "<=", "MAX_INT"),
      ("max_first_waiting_time", "<=", "-1")] := ⟨rfl, rfl, rfl, rfl, rfl, rfl⟩

/-- `/updateCache` knows exactly these cache names (the order of the calls is `C15_order`) -/
theorem C18_update_names :
    Gen.updateCacheNames.map (·.1) = ["data_sources", "persons", "od_trips", "agencies", "services", "nodes",
      "lines", "paths", "scenarios", "schedules"] := rfl

end Tr
