/-
  Property C04 — arrival-time queries return the latest possible departure, if any exists.

  Over the model, on the domain: well-formed data, positive hop times, non-negative walks, the router lists each
  stop once, minimum waiting time and transfer maximum not negative, departures fit the integer type of the
  tables (`TimesBounded`), a requested time at or after 0:00. Lines of the `transferable` mode are allowed: the
  reverse break modelled is the one of `fix:` a7932ab; with the break of the unrepaired code the real code gives a
  wrong answer on such a line (DESIGN 0.3).

    * `C04_optimal`: when the answer is a route, it departs no earlier than ANY admissible journey
      (`AdmRev`: access entry, permitted boarding of an admitted trip at its stop, permitted
      alighting from which the place is still reached by the requested time - `RReach`) whose
      departure is at or after 0:00 and whose span is within max_travel_time. The route itself is such
      a journey (`C04_attained`, `Props/Attained.lean`), so its departure time IS the maximum.
    * when such a journey exists the answer is not no_routing_found (whatever the reason).
  At the level of one context the statement is `singleReverse_gen` (the second pass of a departure-time query,
  C03, uses it too).
  That the model never ends in its `exception` outcome on this domain is `calculateSingle_no_exception`
  (`Props/NoExc`), which also has the two halves together as `C04_answer`.
-/
import TrVerif.Proofs.ReverseSingle
import TrVerif.Proofs.Achieve
import TrVerif.Props.C09Complete
namespace Tr

theorem reverseJourney_some (cx : Ctx) (s : RState) (bd : Int) (node : Nat) :
    (∀ r, reverseJourney cx s (some (bd, node)) = .ok r → r.departureTime = bd) ∧
    (∀ reason, reverseJourney cx s (some (bd, node)) ≠ .noRouting reason) := by
  have exc : ∀ msg : String, (∀ r : Route, Outcome.exception msg = .ok r → r.departureTime = bd) ∧
      ∀ reason, (Outcome.exception msg : Outcome Route) ≠ .noRouting reason :=
    fun _ => ⟨fun _ h => (by cases h), fun _ h => (by cases h)⟩
  unfold reverseJourney
  simp only
  split
  · exact exc _
  · split
    · exact exc _
    · split
      · split
        · exact exc _
        · exact ⟨fun r h => (by cases h; rfl), fun _ h => (by cases h)⟩
      · exact exc _

theorem RReach.mono_set {cx : Ctx} {P P' : List Conn} (hp : ∀ a ∈ P, a ∈ P') {y : Nat} {t : Int} (h : RReach cx P y t) :
    RReach cx P' y t := by
  induction h with
  | egress g hg => exact RReach.egress g hg
  | ride z t e x f _ he hx h1 h2 h3 h4 h5 h6 h7 h8 h9 ih => exact RReach.ride z t e x f ih (hp e he) (hp x hx) h1 h2 h3 h4 h5 h6 h7 h8 h9

theorem UnboardP.mono_set {cx : Ctx} {P P' : List Conn} (hp : ∀ a ∈ P, a ∈ P') {x : Conn} (h : UnboardP cx P x) : UnboardP cx P' x := by
  obtain ⟨a, b, t, hr, ht⟩ := h
  exact ⟨a, b, t, hr.mono_set hp, ht⟩

theorem AdmRev.mono_set {cx : Ctx} {P P' : List Conn} (hp : ∀ a ∈ P, a ∈ P') {a0 : NTD} {e0 x0 : Conn} (h : AdmRev cx P a0 e0 x0) :
    AdmRev cx P' a0 e0 x0 :=
  ⟨h.acc, h.stop, hp _ h.he, hp _ h.hx, h.trip, h.seq, h.board, h.unboard.mono_set hp⟩

theorem revStep_usable (cx : Ctx) (u : Nat → Bool) (single : Bool) (s : RState) (c : Conn) :
    revStep cx u single s c = if u c.trip = true then revStep cx (fun _ => true) single s c else s := by
  unfold revStep
  by_cases hu : u c.trip = true
  · rw [if_pos hu]; simp [hu]
  · rw [if_neg hu]
    have : u c.trip = false := by simpa using hu
    simp [this]

theorem revFold_usable (cx : Ctx) (u : Nat → Bool) (single : Bool) : ∀ (l : List Conn) (s : RState),
    l.foldl (revStep cx u single) s = (l.filter fun c => u c.trip).foldl (revStep cx (fun _ => true) single) s := by
  intro l
  induction l with
  | nil => intro s; rfl
  | cons c rest ih =>
    intro s
    rw [List.foldl_cons, revStep_usable]
    by_cases hu : u c.trip = true
    · rw [if_pos hu, List.filter_cons_of_pos (by simpa using hu), List.foldl_cons]; exact ih _
    · rw [if_neg hu, List.filter_cons_of_neg (by simpa using hu)]; exact ih _

/-- Any usable-flag function, with or without a requested departure (`hdep`). If an admissible journey exists
    among the usable connections whose first boarding passes the acceptance tests, the pass returns a route that leaves no earlier - or the model's
    `exception` outcome -, never no_routing_found. -/
theorem singleReverse_gen {cx : Ctx} (u : Nat → Bool) (w : RW cx cx.cs.rev) (hs : SortedRev cx.cs.rev)
    (hidx : cx.cs.revIdx = revIndex cx.cs.rev)
    (huni : ∀ c ∈ cx.cs.rev, c.effWait cx.p.minWait ≤ cx.p.minWait)
    (hand : (cx.accessFoot.map (·.stop)).Nodup) (haccNonneg : ∀ a ∈ cx.accessFoot, 0 ≤ a.time)
    (hbound : ∀ c ∈ cx.cs.rev, c.dep < MAX_INT) (h0 : 0 ≤ cx.arrT)
    {a0 : NTD} {e0 x0 : Conn} (hJ : AdmRev cx (cx.cs.rev.filter fun c => u c.trip) a0 e0 x0)
    (hok : AccOK cx e0)
    (hdep : cx.depT = -1 ∨ (cx.p.maxFirstWait < 0 ∧ cx.depT ≤ admDeparture cx a0 e0))
    (hd0 : 0 ≤ admDeparture cx a0 e0) (hdT : cx.arrT - admDeparture cx a0 e0 ≤ cx.p.maxTotal) :
    (∀ r, singleReverse cx u = .ok r → admDeparture cx a0 e0 ≤ r.departureTime) ∧
    (∀ reason, singleReverse cx u ≠ .noRouting reason) := by
  unfold admDeparture at hd0 hdT hdep ⊢
  unfold singleReverse
  cases hl : lookupPos (revLookup cx.cs.rev cx.cs.revIdx (hourOf cx.arrT + 1)) with
  | none => simp
  | some start =>
    simp only
    have hsfold : revScan cx u true start =
        ((cx.cs.rev.drop start).filter fun c => u c.trip).foldl (revStep cx (fun _ => true) true) (RState.init cx) :=
      revFold_usable cx u true _ _
    generalize revScan cx u true start = s at hsfold ⊢
    -- the cut line, from the final state: that of max_travel_time, or that of the break after the first reached access stop
    obtain ⟨θ, hθ1, hfin, hθ⟩ : ∃ θ : Int, cx.arrT - cx.p.maxTotal ≤ θ ∧
        (s.reached = true → cx.maxAccess ≥ 0 → s.tentAccDep - cx.maxAccess - cx.p.minWait ≤ θ) ∧
        (θ = cx.arrT - cx.p.maxTotal ∨
          s.reached = true ∧ cx.maxAccess ≥ 0 ∧ θ = s.tentAccDep - cx.maxAccess - cx.p.minWait) := by
      by_cases hc : s.reached = true ∧ cx.maxAccess ≥ 0 ∧
          cx.arrT - cx.p.maxTotal ≤ s.tentAccDep - cx.maxAccess - cx.p.minWait
      · exact ⟨_, hc.2.2, fun _ _ => Int.le_refl _, Or.inr ⟨hc.1, hc.2.1, rfl⟩⟩
      · exact ⟨_, Int.le_refl _, fun hr hm => Int.le_of_lt (Int.not_le.1 fun hh => hc ⟨hr, hm, hh⟩), Or.inl rfl⟩
    have hsubd : ∀ a ∈ (cx.cs.rev.drop start).filter (fun c => u c.trip), a ∈ cx.cs.rev :=
      fun a ha => List.mem_of_mem_drop (List.mem_filter.mp ha).1
    have hsubu : ∀ a ∈ cx.cs.rev.filter (fun c => u c.trip), a ∈ cx.cs.rev := fun a ha => (List.mem_filter.mp ha).1
    have hC : RCθ cx θ ((cx.cs.rev.drop start).filter fun c => u c.trip) s := by
      rw [hsfold] at hfin ⊢
      exact revScanList1_RCθ w θ hθ1 _ [] _ hsubd
        (List.Pairwise.sublist (List.Sublist.trans List.filter_sublist (List.drop_sublist _ _)) hs)
        (init_RCθ cx θ w.egrNodup) hfin
    have hin : ∀ a ∈ cx.cs.rev.filter (fun c => u c.trip), a.arr ≤ cx.arrT →
        a ∈ (cx.cs.rev.drop start).filter (fun c => u c.trip) := fun a ha hd =>
      List.mem_filter.mpr ⟨mem_drop_start_rev cx.cs hidx cx.arrT h0 start hl (hsubu a ha) hd, (List.mem_filter.mp ha).2⟩
    obtain ⟨heP, hxP, huP, hphe, ham, hle⟩ := ride_scanned_rev w hsubu hin hJ.he hJ.hx hJ.unboard hJ.trip hJ.seq
    have hwe := effWait_nonneg e0 cx.p.minWait w.mw
    have hat0 := haccNonneg a0 hJ.acc
    have hbnd : ∀ y js e, s.acc y = some js → js.enter = some e → e.dep < MAX_INT :=
      fun y js e hj he => hbound e (hsubd e (hC.accMem y js e hj he))
    have hkey : ∃ a1 ∈ cx.accessFoot, ∃ b, AccGe cx s a1.stop b ∧ e0.dep - e0.effWait cx.p.minWait - a0.time ≤ b - a1.time ∧
        1 ≤ s.count := by
      by_cases hcut : θ ≤ e0.arr
      · obtain ⟨hacc, hcnt⟩ := hC.acc e0 heP x0 hxP huP hJ.trip hJ.seq hJ.board hok hcut
        exact ⟨a0, hJ.acc, _, by rw [hJ.stop]; exact hacc, Int.le_refl _, hcnt⟩
      · -- cut by the break after the first reached access stop: that stop's boarding is better
        have hθ : s.reached = true ∧ cx.maxAccess ≥ 0 ∧ θ = s.tentAccDep - cx.maxAccess - cx.p.minWait :=
          hθ.resolve_left fun hh => by omega
        obtain ⟨c1, hc1, hdep1, ⟨a1, hna1⟩, hacc1, hcnt1⟩ := hC.reach hθ.1
        have hm1 := nodes_mem hna1
        have hmax : a1.time ≤ cx.maxAccess := maxTime_ge cx.accessFoot a1 hm1.1
        have hu1 := huni c1 (hsubd c1 hc1)
        have hw1 := effWait_nonneg c1 cx.p.minWait w.mw
        -- the boarding that set the mark passes the acceptance tests, or the journey is too early itself
        have hok1 : AccOK cx c1 := by
          rcases hdep with hd | ⟨hcap, hdJ⟩
          · exact Or.inl hd
          · by_cases hearly : cx.depT ≤ c1.dep - a1.time - c1.effWait cx.p.minWait
            · exact Or.inr ⟨a1, hna1, hearly, Or.inl (by omega)⟩
            · exfalso; omega
        refine ⟨a1, hm1.1, _, by rw [hm1.2]; exact hacc1 hok1, ?_, hcnt1⟩
        omega
    obtain ⟨a1, ha1, b, hacc1, hb1, hcnt⟩ := hkey
    obtain ⟨bd, node, hbest, hbd⟩ := bestAccess_ge hand ha1 hacc1 (by omega) (by omega) hbnd w.mw haccNonneg
    rw [if_neg (by omega), hbest]
    obtain ⟨k1, k2⟩ := reverseJourney_some cx s bd node
    exact ⟨fun r hr' => by rw [k1 r hr']; omega, k2⟩

theorem singleReverse_optimal {cx : Ctx} (w : RW cx cx.cs.rev) (hs : SortedRev cx.cs.rev) (hidx : cx.cs.revIdx = revIndex cx.cs.rev)
    (huni : ∀ c ∈ cx.cs.rev, c.effWait cx.p.minWait ≤ cx.p.minWait)
    (hand : (cx.accessFoot.map (·.stop)).Nodup) (haccNonneg : ∀ a ∈ cx.accessFoot, 0 ≤ a.time)
    (hbound : ∀ c ∈ cx.cs.rev, c.dep < MAX_INT) (h0 : 0 ≤ cx.arrT) (hnd : cx.depT = -1)
    {a0 : NTD} {e0 x0 : Conn} (hJ : AdmRev cx cx.cs.rev a0 e0 x0)
    (hd0 : 0 ≤ admDeparture cx a0 e0) (hdT : cx.arrT - admDeparture cx a0 e0 ≤ cx.p.maxTotal) :
    (∀ r, singleReverse cx (fun _ => true) = .ok r → admDeparture cx a0 e0 ≤ r.departureTime) ∧
    (∀ reason, singleReverse cx (fun _ => true) ≠ .noRouting reason) :=
  singleReverse_gen (fun _ => true) w hs hidx huni hand haccNonneg hbound h0
    (hJ.mono_set fun _ h => List.mem_filter.mpr ⟨h, rfl⟩) (Or.inl hnd) (Or.inl hnd) hd0 hdT

/-- one minimum waiting time for all departures: no line of the `transferable` mode -/
def UniformWait (ds : Dataset) : Prop := ∀ c ∈ ds.conns, c.minWait < 0

theorem effWait_le_minWait {ds : Dataset} {c : Conn} (hc : c ∈ ds.conns) {mw : Int} (hmw : 0 ≤ mw) : c.effWait mw ≤ mw := by
  obtain ⟨tr, _, hc'⟩ := mem_conns hc
  unfold Conn.effWait
  rw [(tripConns_facts ds tr c hc').2.2.2.2]
  unfold Dataset.lineMinWait
  split <;> split <;> omega

theorem RReach.egress_nonempty {cx : Ctx} {C : List Conn} {y : Nat} {t : Int} (h : RReach cx C y t) :
    cx.egressFoot.isEmpty = false := by
  induction h with
  | egress g hg => exact List.isEmpty_eq_false_iff_exists_mem.2 ⟨g, hg⟩
  | ride _ _ _ _ _ _ _ _ _ _ _ _ _ _ _ _ _ ih => exact ih

/-- **C04.** The two claims of the file header. -/
theorem C04_optimal (ds : Dataset) (hwf : WFData ds) (p : Params) (hp : p.forward = false) (hmw : 0 ≤ p.minWait)
    (hmt : 0 ≤ p.maxTransfer) (hpos : PosHops ds) (hb : TimesBounded ds)
    (hegr : ∀ g ∈ ds.egress, 0 ≤ g.time) (hend : (ds.egress.map (·.stop)).Nodup)
    (hacc : ∀ a ∈ ds.access, 0 ≤ a.time) (hand : (ds.access.map (·.stop)).Nodup) (h0 : 0 ≤ p.time)
    {a0 : NTD} {e0 x0 : Conn}
    (hJ : AdmRev (mkCtx (ds.restrict (ds.connSetOf (ds.scenarioOf p))) p (ds.connSetOf (ds.scenarioOf p))
        (routerLookup ds.access p.maxAccess) (routerLookup ds.egress p.maxEgress) (-1) p.time)
        (ds.connSetOf (ds.scenarioOf p)).rev a0 e0 x0)
    (hd0 : 0 ≤ e0.dep - e0.effWait p.minWait - a0.time)
    (hdT : p.time - (e0.dep - e0.effWait p.minWait - a0.time) ≤ p.maxTotal) :
    (∀ r, calculateSingle ds p = .ok r → e0.dep - e0.effWait p.minWait - a0.time ≤ r.departureTime) ∧
    (∀ reason, calculateSingle ds p ≠ .noRouting reason) := by
  have hsub := connSetOf_rev_sub ds (ds.scenarioOf p)
  have w := RW_dataset' hwf p hmw hmt hpos hegr hend (routerLookup ds.access p.maxAccess) (-1) p.time
  have hane : (routerLookup ds.access p.maxAccess).isEmpty = false :=
    List.isEmpty_eq_false_iff_exists_mem.2 ⟨a0, hJ.acc⟩
  have hene : (routerLookup ds.egress p.maxEgress).isEmpty = false :=
    let ⟨_, _, _, hr, _⟩ := hJ.unboard; hr.egress_nonempty
  have hopt := singleReverse_optimal (cx := mkCtx (ds.restrict (ds.connSetOf (ds.scenarioOf p))) p (ds.connSetOf (ds.scenarioOf p))
      (routerLookup ds.access p.maxAccess) (routerLookup ds.egress p.maxEgress) (-1) p.time)
    w (connSetOf_sorted ds _) rfl
    (fun c hc => effWait_le_minWait (hsub c hc) hmw)
    (routerLookup_nodup _ _ hand) (fun a ha => hacc a (List.mem_filter.mp ha).1)
    (fun c hc => hb c (hsub c hc)) h0 rfl hJ hd0 hdT
  unfold calculateSingle calculateSingleCS calculateSingleWith
  show (∀ r, (if (routerLookup ds.access p.maxAccess).isEmpty = true ∧ (routerLookup ds.egress p.maxEgress).isEmpty = true then _
      else _) = Outcome.ok r → _) ∧ _
  simp only [hane, hene, Bool.false_eq_true, and_false, if_false, hp]
  exact hopt

end Tr
