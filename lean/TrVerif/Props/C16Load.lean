/-
  Props/C16Load — round trip of the loaders (property C16 at record level).

  For every dataset `ds` that the cache files hold without loss (`Enc ds`, `Proofs/LoadSpec.lean`), running
  the model of the real loaders (`Load.loadAll`, `Model/Load.lean`) on the records that `cachegen` writes
  (`Load.encode`) yields exactly the tables of `Proofs/LoadSpec.lean`; with unique trip ids both sorted lists
  are the model's `fwdAll` / `revAll`, the lists the theorems C01–C12 speak about.
  The trips table is stated as the fold `(finalSch ds).trips` of `Map.emplace`, not in closed form.

  The tie of `loadAll` / `encode` to /repo is check/loader_corr.py (model vs real loader on every
  generated directory; `encode` vs the files cachegen wrote).
-/
import TrVerif.Proofs.LoadSched
import TrVerif.Proofs.Sort
import TrVerif.Proofs.DataFacts
import TrVerif.Proofs.Fold
namespace Tr.Load

theorem finalSch_ub (ds : Dataset) : (finalSch ds).ub = false := by
  refine foldl_inv (fun s : Sch => s.ub = false) (fun s li _ h => ?_) rfl
  refine foldl_inv (fun s : Sch => s.ub = false) (fun s sv _ h => ?_) h
  exact foldl_inv (f := addTrip ds) (fun s : Sch => s.ub = false) (fun s t _ h => h) h

theorem expLines_has (ds : Dataset) (a : Nat) : (expLines ds).has (K 4 a) = decide (a < ds.lines.length) := by
  unfold expLines; rw [expFrom_has]
theorem expNodes_has (ds : Dataset) (a : Nat) : (expNodes ds).has (K 1 a) = decide (a < ds.nStops) := by
  unfold expNodes; rw [mkNodes_has]

theorem getLines_enc (ds : Dataset) (h : Enc ds) : getLines (encode ds) (expIds 2 ds.nAgencies) = (0, expLines ds) := by
  unfold getLines
  simp only [encode]
  rw [linesLoop_enc (expIds 2 ds.nAgencies) ds.nAgencies (expIds_has 2 ds.nAgencies) ds.lines h.lineAgency]
  rfl

theorem getPaths_enc (ds : Dataset) (h : Enc ds) : getPaths (encode ds) (expLines ds) (expNodes ds) = (0, expPaths ds) := by
  unfold getPaths
  simp only [encode]
  rw [pathsLoop_enc (expLines ds) (expNodes ds) ds.lines.length ds.nStops (expLines_has ds) (expNodes_has ds) ds.paths h.paths]
  rfl

theorem getScenarios_enc (ds : Dataset) (h : Enc ds) :
    getScenarios (encode ds) ⟨(expIds 3 ds.nServices).has, (expLines ds).has, (expIds 2 ds.nAgencies).has, (expNodes ds).has⟩ = (0, expScen ds) := by
  unfold getScenarios
  simp only [encode]
  rw [scenLoop_enc _ ds.nServices ds.lines.length ds.nAgencies (expIds_has 3 ds.nServices) (expLines_has ds)
    (expIds_has 2 ds.nAgencies) ds.scenarios h.scen]
  rfl

theorem schedules_enc (ds : Dataset) (h : Enc ds) :
    schedLoop (encode ds).lineFiles (expIds 3 ds.nServices) (expPaths ds) (expLines ds) {} = finalSch ds := by
  simp only [encode]
  unfold expLines finalSch
  exact schedLoop_enc ds (expIds 3 ds.nServices) (expIds_has 3 ds.nServices) h.trips ds.lines 0 {} (by omega) (by intro j; simp)

/-- **C16 round trip**: the loaders, run on the records that encode `ds`, build exactly these tables. -/
theorem C16_roundtrip (ds : Dataset) (h : Enc ds) :
    loadAll (encode ds) =
      { agencies := expIds 2 ds.nAgencies, services := expIds 3 ds.nServices, nodes := expNodes ds,
        lines := expLines ds, paths := expPaths ds, scenarios := expScen ds,
        trips := (finalSch ds).trips, conns := (finalSch ds).conns, ub := false } := by
  have hN : getNodes (encode ds) = (0, expNodes ds) := getNodes_enc ds h.foot
  have hA : getIds (encode ds).agencies = (0, expIds 2 ds.nAgencies) := getIds_enc 2 ds.nAgencies
  have hS : getIds (encode ds).services = (0, expIds 3 ds.nServices) := getIds_enc 3 ds.nServices
  simp [loadAll, Gen.loadOrder, loadFrom, applyCall, hN, hA, hS, getLines_enc ds h, getPaths_enc ds h, getScenarios_enc ds h, schedules_enc ds h,
    ENOENT, finalSch_ub]

theorem foldl_addTrip_conns (ds : Dataset) : ∀ (l : List TripRec) (s : Sch),
    (l.foldl (addTrip ds) s).conns = s.conns ++ l.flatMap (fun t => (ds.tripConns t).map liftConn) := by
  intro l; induction l with
  | nil => intro s; simp
  | cons t l ih => intro s; rw [List.foldl_cons, ih]; simp [addTrip, List.append_assoc]

theorem finalSch_eq (ds : Dataset) : finalSch ds = (loadTrips ds).foldl (addTrip ds) {} := by
  unfold finalSch loadTrips addLine
  rw [List.foldl_flatMap]
  congr 1
  funext s li
  rw [List.foldl_flatMap]

/-- **C16**: `TransitData::connections` after loading the encoded files = for every trip, in file order,
    the connections the model builds from that trip's record (`Dataset.tripConns`). -/
theorem C16_loaded_conns (ds : Dataset) (h : Enc ds) :
    (loadAll (encode ds)).conns = (loadTrips ds).flatMap (fun t => (ds.tripConns t).map liftConn) := by
  rw [C16_roundtrip ds h]
  simp only [finalSch_eq, foldl_addTrip_conns]
  simp

/-- **C16**: the trips the loader creates, in file order, are the dataset's trips in another order -/
theorem C16_loadTrips_perm (ds : Dataset) (h : Enc ds) : (loadTrips ds).Perm ds.trips := by
  unfold loadTrips
  have inner : ∀ li, ((servicesOf (tripsOfLine ds li)).flatMap fun sv => schedTrips ds li sv).Perm (tripsOfLine ds li) := fun li =>
    perm_flatMap_filter (fun t : TripRec => t.service) _ (nodup_eraseDups _) (tripsOfLine ds li)
      (by intro t ht; simp only [List.mem_eraseDups, List.mem_map]; exact ⟨t, ht, rfl⟩)
  have outer : ((List.range' 0 ds.lines.length).flatMap fun li => tripsOfLine ds li).Perm ds.trips :=
    perm_flatMap_filter (fun t : TripRec => (ds.paths.getD t.path default).line) _ (List.nodup_range' (step := 1) (by omega)) ds.trips
      (by intro t ht; simp only [List.mem_range'_1]; exact ⟨Nat.zero_le _, by simpa [pathOfRec] using (h.trips t ht).line⟩)
  refine List.Perm.trans ?_ outer
  generalize List.range' 0 ds.lines.length = ls
  induction ls with
  | nil => simp
  | cons li ls ih => simp only [List.flatMap_cons]; exact List.Perm.append (inner li) ih

theorem loadConns_perm (ds : Dataset) (h : Enc ds) : ((loadTrips ds).flatMap ds.tripConns).Perm ds.conns :=
  (C16_loadTrips_perm ds h).flatMap_right ds.tripConns

theorem C16_loaded_conns_perm (ds : Dataset) (h : Enc ds) :
    (loadAll (encode ds)).conns.Perm (ds.conns.map liftConn) := by
  rw [C16_loaded_conns ds h, ← List.map_flatMap]
  exact (loadConns_perm ds h).map _

theorem lFwdLt_lift (a b : Conn) : lFwdLt (liftConn a) (liftConn b) = fwdLt a b := by
  apply Bool.eq_iff_iff.2
  simp only [lFwdLt, fwdLt, Bool.or_eq_true, Bool.and_eq_true, decide_eq_true_eq]
  simp only [liftConn, K_lt, K_inj]
theorem lRevLt_lift (a b : Conn) : lRevLt (liftConn a) (liftConn b) = revLt a b := by
  apply Bool.eq_iff_iff.2
  simp only [lRevLt, revLt, Bool.or_eq_true, Bool.and_eq_true, decide_eq_true_eq]
  simp only [liftConn, gt_iff_lt, K_lt, K_inj]

/-- **C16**: with unique trip ids, `forwardConnections` and `reverseConnections` of the loaded data are the
    model's `fwdAll` / `revAll` (up to the identifier embedding) — the lists every calculation scans. -/
theorem C16_loaded_sorted (ds : Dataset) (h : Enc ds) (hnd : (ds.trips.map (·.id)).Nodup) :
    (loadAll (encode ds)).fwd = ds.fwdAll.map liftConn ∧ (loadAll (encode ds)).rev = ds.revAll.map liftConn := by
  have hp := loadConns_perm ds h
  -- distinct connections differ in trip or sequence number, which is all a comparator needs to order them
  have sorted : ∀ (lt : Conn → Conn → Bool) (lt' : LConn → LConn → Bool), (∀ a b, lt' (liftConn a) (liftConn b) = lt a b) →
      StrictWeak lt → (∀ x y : Conn, ¬ (x.trip = y.trip ∧ x.seq = y.seq) → lt x y = true ∨ lt y x = true) →
      isort lt' (loadAll (encode ds)).conns = (isort lt ds.conns).map liftConn := fun lt lt' hl sw tot => by
    rw [C16_loaded_conns ds h, ← List.map_flatMap]
    exact isort_lift lt lt' liftConn hl sw hp fun x hx y hy hne =>
      tot x y fun ⟨b, c⟩ => hne (conn_eq_of_trip_seq hnd (hp.subset hx) (hp.subset hy) b c)
  constructor
  · refine sorted fwdLt lFwdLt lFwdLt_lift fwdLt_strictWeak fun x y hxy => ?_
    simp only [fwdLt, Bool.or_eq_true, Bool.and_eq_true, decide_eq_true_eq]
    omega
  · refine sorted revLt lRevLt lRevLt_lift revLt_strictWeak fun x y hxy => ?_
    simp only [revLt, Bool.or_eq_true, Bool.and_eq_true, decide_eq_true_eq]
    omega

/-- non-vacuity: a dataset that meets `Enc` -/
def nvLoad : Dataset :=
  { nStops := 4, nAgencies := 2, nServices := 2,
    foot := [⟨0, 0, 0, 0⟩, ⟨0, 1, 60, 70⟩, ⟨1, 1, 0, 0⟩, ⟨2, 2, 0, 0⟩, ⟨3, 3, 0, 0⟩, ⟨3, 1, 120, 130⟩],
    lines := [⟨0, 0⟩, ⟨1, 2⟩], paths := [⟨0, [0, 1, 2], [500, 0]⟩, ⟨1, [2, 3], [700]⟩],
    trips := [⟨5, 1, 0, [400, 500], [410, 510], [true, true], [true, true]⟩,
              ⟨3, 0, 1, [100, 200, 300], [110, 210, 310], [true, false, true], [true, true, false]⟩,
              ⟨9, 0, 0, [1100, 1200, 1300], [1110, 1210, 1310], [true, true, true], [true, true, true]⟩],
    scenarios := [{ services := [0, 1], onlyLines := [], exceptLines := [1], onlyAgencies := [], exceptAgencies := [], onlyModes := [0], exceptModes := [] }],
    access := [], egress := [] }

theorem nv_enc : Enc nvLoad ∧ (nvLoad.trips.map (·.id)).Nodup := by
  refine ⟨⟨by decide, by decide, by decide, ?_, ?_⟩, by decide⟩
  · intro sc hsc
    simp only [nvLoad, List.mem_singleton] at hsc
    subst hsc
    constructor <;> decide
  · intro t ht
    simp only [nvLoad, List.mem_cons, List.not_mem_nil, or_false] at ht
    rcases ht with rfl | rfl | rfl <;> constructor <;> decide

/-- on that dataset the model loader is READY, creates 5 connections in file order (line 0: service 1 then
    service 0; line 1; the `transferable` line's connection waits 0) and sorts them by departure -/
theorem nv_loaded :
    (loadAll (encode nvLoad)).status = "READY" ∧
    (loadAll (encode nvLoad)).conns.map (fun c => (c.trip, c.seq)) = [(K 7 3, 1), (K 7 3, 2), (K 7 9, 1), (K 7 9, 2), (K 7 5, 1)] ∧
    (loadAll (encode nvLoad)).fwd.map (fun c => (c.trip, c.seq)) = [(K 7 3, 1), (K 7 3, 2), (K 7 5, 1), (K 7 9, 1), (K 7 9, 2)] ∧
    (loadAll (encode nvLoad)).conns.map (fun c => [c.dep, c.arr, c.mw]) = [[110, 200, -1], [210, 300, -1], [1110, 1200, -1], [1210, 1300, -1], [410, 500, 0]] := by
  refine ⟨by decide, by decide, by decide, by decide⟩

end Tr.Load
