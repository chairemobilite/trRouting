/-
  The outcome `exception` of the model - a reconstruction or clean-up loop that does not end, an
  out-of-range `map::at`, an hour index read out of bounds - is never the answer of a route
  calculation on well-formed data.  The optimality theorems C03 / C04 / C05 say nothing of this
  outcome: with it excluded, on their domains, the answer is a route (optimal, attained) or
  - when no admissible journey exists - no_routing_found.

  Hypotheses (all about the data, none about the query except non-negative waiting / transfer
  parameters): WFData, every hop takes time, stop numbers are stops of the data, the router's
  access walks are non-negative.

  The second half of the file does the same for the two accessibility calculations
  (`calculateAllNodes_no_exception`; arrival maps also need non-negative arrival times, `NonnegArr`).
-/
import TrVerif.Proofs.DataTerm
import TrVerif.Proofs.FwdChain
import TrVerif.Props.C18
import TrVerif.Props.Attained
namespace Tr

theorem lookupPos_ne_none {l : Lookup} (h : l ≠ .outOfBounds) : lookupPos l ≠ none := by
  cases l with
  | pos p => simp [lookupPos]
  | outOfBounds => exact absurd rfl h

theorem fwdStart_ne_none {l : List Conn} {idx : List Nat} (h : idx = fwdIndex l) (hour : Int) :
    lookupPos (fwdLookup l idx hour) ≠ none := by
  subst h; exact lookupPos_ne_none (C18_index_safe l hour).1

theorem revStart_ne_none {l : List Conn} {idx : List Nat} (h : idx = revIndex l) (hour : Int) :
    lookupPos (revLookup l idx hour) ≠ none := by
  subst h; exact lookupPos_ne_none (C18_index_safe l hour).2

theorem singleReverse_no_exception {cx : Ctx} (usable : Nat → Bool)
    (hs : SortedRev cx.cs.rev) (hm : ArrMono cx.cs.rev) (hmw : 0 ≤ cx.p.minWait)
    (w : TimeWF cx cx.cs.rev) (hc : ChainWF cx cx.cs.rev) (hsl : SliceOK cx cx.cs.rev) (hb : BetweenOK cx cx.cs.rev)
    (hu : UniqueSeq cx.cs.rev) (hacc : ∀ a ∈ cx.accessFoot, 0 ≤ a.time)
    (hidx : cx.cs.revIdx = revIndex cx.cs.rev) (what : String) :
    singleReverse cx usable ≠ .exception what := by
  unfold singleReverse
  split
  · rename_i hl
    exact absurd hl (revStart_ne_none hidx _)
  · simp only
    split
    · simp
    · exact reverseJourney_no_exception (revScan_RInv usable true mem_of_filter hs hm hmw _) w hc hsl hb hu hacc what

theorem calculateSingleWith_no_exception (ds : Dataset) (cs : ConnSet) (p : Params) (accessFoot egressFoot : List NTD)
    (hs : SortedRev cs.rev) (hm : ArrMono cs.rev) (hmw : 0 ≤ p.minWait)
    (w : ∀ depT arrT, TimeWF (mkCtx ds p cs accessFoot egressFoot depT arrT) cs.rev)
    (hc : ∀ depT arrT, ChainWF (mkCtx ds p cs accessFoot egressFoot depT arrT) cs.rev)
    (hsl : ∀ depT arrT, SliceOK (mkCtx ds p cs accessFoot egressFoot depT arrT) cs.rev)
    (hb : ∀ depT arrT, BetweenOK (mkCtx ds p cs accessFoot egressFoot depT arrT) cs.rev)
    (hu : UniqueSeq cs.rev) (hacc : ∀ a ∈ accessFoot, 0 ≤ a.time)
    (hidxF : cs.fwdIdx = fwdIndex cs.fwd) (hidxR : cs.revIdx = revIndex cs.rev) (what : String) :
    calculateSingleWith ds cs p accessFoot egressFoot ≠ .exception what := by
  rcases calculateSingleWith_outcome ds cs p accessFoot egressFoot with ⟨_, h⟩ | ⟨hl, _⟩ | ⟨depT, arrT, usable, h, _⟩
  · rw [h]; simp
  · exact absurd hl (fwdStart_ne_none hidxF _)
  · rw [h]
    exact singleReverse_no_exception usable hs hm hmw (w _ _) (hc _ _) (hsl _ _) (hb _ _) hu hacc hidxR what

/-- **no exception.** For every well-formed dataset whose hops take time and whose stop numbers
    are stops of the data, every scenario and EVERY route query (any time of trip, any limits;
    waiting and transfer parameters non-negative), the calculation answers with a route or with
    no_routing_found - never with the model's `exception` outcome. -/
theorem calculateSingle_no_exception (ds : Dataset) (hwf : WFData ds) (hpos : PosHops ds) (hr1 : StopsInRange ds)
    (hr2 : DepStopsInRange ds) (hacc : ∀ a ∈ ds.access, 0 ≤ a.time) (p : Params) (hmw : 0 ≤ p.minWait)
    (hmt : 0 ≤ p.maxTransfer) (what : String) :
    calculateSingle ds p ≠ .exception what := by
  unfold calculateSingle calculateSingleCS
  exact calculateSingleWith_no_exception _ _ p _ _ (connSetOf_sorted ds _)
    (timeWF_dataset hwf p hmw hmt _ [] [] 0 0).arrMono hmw
    (timeWF_dataset hwf p hmw hmt _ _ _)
    (chainWF_dataset hwf hpos hr1 p _ _ _)
    (sliceOK_dataset hwf p _ _ _)
    (betweenOK_dataset hwf hr2 p _ _ _)
    (uniqueSeq_dataset hwf.toWFSchedule _)
    (fun a ha => hacc a (List.mem_filter.mp ha).1) rfl rfl what


/-- **C03 / C05, complete statement.** On the property's domain, when an admissible journey
    exists the calculation RETURNS a route (no other outcome), that route arrives no later than
    the admissible journey, and no journey that meets its arrival and leaves at or after the
    requested time leaves later than it does.  With `C03_attained` / `C05_attained` both bounds
    are attained by the route itself. -/
theorem C03_answer (ds : Dataset) (hwf : WFData ds) (p : Params) (hp : p.forward = true) (hmw : 0 ≤ p.minWait)
    (hmt : 0 ≤ p.maxTransfer) (hpos : PosHops ds) (hself : SelfFootArr ds) (hb : TimesBounded ds) (hba : ArrBounded ds)
    (hr1 : StopsInRange ds) (hr2 : DepStopsInRange ds) (hcap : p.maxFirstWait < 0)
    (hacc : ∀ a ∈ ds.access, 0 ≤ a.time) (hand : (ds.access.map (·.stop)).Nodup)
    (hegr : ∀ g ∈ ds.egress, 0 ≤ g.time) (hend : (ds.egress.map (·.stop)).Nodup)
    (h0 : 0 ≤ p.time) (ht : p.time < (HOUR_END : Int) * 3600)
    {e x : Conn} {g : NTD}
    (hJ : AdmFwd (mkCtx (ds.restrict (ds.connSetOf (ds.scenarioOf p))) p (ds.connSetOf (ds.scenarioOf p))
        (routerLookup ds.access p.maxAccess) (routerLookup ds.egress p.maxEgress) p.time (-1))
        (ds.connSetOf (ds.scenarioOf p)).fwd e x g)
    (hT : x.arr + g.time - p.time ≤ p.maxTotal) :
    ∃ r, calculateSingle ds p = .ok r ∧ r.arrivalTime ≤ x.arr + g.time ∧
      ∀ a0 e0 x0,
        AdmRev { mkCtx (ds.restrict (ds.connSetOf (ds.scenarioOf p))) p (ds.connSetOf (ds.scenarioOf p))
            (routerLookup ds.access p.maxAccess) (routerLookup ds.egress p.maxEgress) p.time (-1) with arrT := r.arrivalTime }
          (ds.connSetOf (ds.scenarioOf p)).rev a0 e0 x0 →
        p.time ≤ e0.dep - e0.effWait p.minWait - a0.time → e0.dep - e0.effWait p.minWait - a0.time ≤ r.departureTime := by
  obtain ⟨h1, h2, h3⟩ := C03_optimal ds hwf p hp hmw hmt hpos hself hb hba hcap hacc hand hegr hend h0 ht hJ hT
  cases hres : calculateSingle ds p with
  | ok r => exact ⟨r, rfl, h1 r hres, h3 r hres⟩
  | noRouting reason => exact absurd hres (h2 reason)
  | exception what => exact absurd hres (calculateSingle_no_exception ds hwf hpos hr1 hr2 hacc p hmw hmt what)

/-- **C04, complete statement.** On the property's domain, when an admissible journey exists the
    calculation RETURNS a route, and that route departs no earlier than the admissible journey.
    With `C04_attained` the bound is attained by the route itself. -/
theorem C04_answer (ds : Dataset) (hwf : WFData ds) (p : Params) (hp : p.forward = false) (hmw : 0 ≤ p.minWait)
    (hmt : 0 ≤ p.maxTransfer) (hpos : PosHops ds) (hb : TimesBounded ds) (hr1 : StopsInRange ds) (hr2 : DepStopsInRange ds)
    (hegr : ∀ g ∈ ds.egress, 0 ≤ g.time) (hend : (ds.egress.map (·.stop)).Nodup)
    (hacc : ∀ a ∈ ds.access, 0 ≤ a.time) (hand : (ds.access.map (·.stop)).Nodup) (h0 : 0 ≤ p.time)
    {a0 : NTD} {e0 x0 : Conn}
    (hJ : AdmRev (mkCtx (ds.restrict (ds.connSetOf (ds.scenarioOf p))) p (ds.connSetOf (ds.scenarioOf p))
        (routerLookup ds.access p.maxAccess) (routerLookup ds.egress p.maxEgress) (-1) p.time)
        (ds.connSetOf (ds.scenarioOf p)).rev a0 e0 x0)
    (hd0 : 0 ≤ e0.dep - e0.effWait p.minWait - a0.time)
    (hdT : p.time - (e0.dep - e0.effWait p.minWait - a0.time) ≤ p.maxTotal) :
    ∃ r, calculateSingle ds p = .ok r ∧ e0.dep - e0.effWait p.minWait - a0.time ≤ r.departureTime := by
  obtain ⟨h1, h2⟩ := C04_optimal ds hwf p hp hmw hmt hpos hb hegr hend hacc hand h0 hJ hd0 hdT
  cases hres : calculateSingle ds p with
  | ok r => exact ⟨r, rfl, h1 r hres⟩
  | noRouting reason => exact absurd hres (h2 reason)
  | exception what => exact absurd hres (calculateSingle_no_exception ds hwf hpos hr1 hr2 hacc p hmw hmt what)


theorem fwdScan_FCh {cx : Ctx} {C : List Conn} (w : FChainWF cx C) (single : Bool) (post : List Conn)
    (hC : ∀ a ∈ post, a ∈ C) (hs : SortedFwd post) :
    ∃ d, FCh cx C d (post.foldl (fwdStep cx single) (FState.init cx)) := by
  cases post with
  | nil => exact ⟨0, init_FCh cx C 0⟩
  | cons c rest =>
    apply fwdScanList_FCh w single (c :: rest) _ c.dep hC hs _ (init_FCh cx C c.dep)
    intro a ha
    rcases List.mem_cons.mp ha with e | e
    · subst e; exact Int.le_refl _
    · have := (List.pairwise_cons.mp hs).1 a e
      simp only [fwdLt, Bool.or_eq_false_iff, Bool.and_eq_false_iff, decide_eq_false_iff_not] at this
      omega

def NonnegArr (ds : Dataset) : Prop := ∀ c ∈ ds.conns, 0 ≤ c.arr

theorem allNodes_tail {count : Nat} (f : Nat → Outcome (Option AccNode)) (n : Nat) (r : Reason)
    (hf : ∀ node w, f node ≠ .exception w) (what : String) :
    (if count = 0 then (Outcome.noRouting r : Outcome (List AccNode × Nat))
      else match collectNodes f (List.range n) [] with
        | .ok l => .ok (l, n)
        | .noRouting r => .noRouting r
        | .exception w => .exception w) ≠ .exception what := by
  by_cases hc : count = 0
  · rw [if_pos hc]; simp
  · rw [if_neg hc]
    have := collectNodes_no_exception f hf (List.range n) []
    cases hcn : collectNodes f (List.range n) [] with
    | ok l => simp
    | noRouting r => simp
    | exception w => exact absurd hcn (this w)

/-- **no exception (accessibility).** For every well-formed dataset whose hops take time, whose
    stop numbers are stops of the data and whose arrival times are non-negative, every scenario
    and EVERY accessibility query, the calculation answers with a map or with no_routing_found -
    never with the model's `exception` outcome. -/
theorem calculateAllNodes_no_exception (ds : Dataset) (hwf : WFData ds) (hpos : PosHops ds) (hr1 : StopsInRange ds)
    (hr2 : DepStopsInRange ds) (hnn : NonnegArr ds) (p : Params) (hmw : 0 ≤ p.minWait)
    (hmt : 0 ≤ p.maxTransfer) (what : String) :
    calculateAllNodes ds p ≠ .exception what := by
  have hsub := connSetOf_rev_sub ds (ds.scenarioOf p)
  have hfr := connSetOf_fwd_mem_rev ds (ds.scenarioOf p)
  unfold calculateAllNodes calculateAllNodesCS
  simp only
  by_cases hfwd : p.forward = true
  · rw [if_pos hfwd]
    split
    · simp
    · split
      · rename_i hl
        exact absurd hl (fwdStart_ne_none rfl _)
      · obtain ⟨d, hch⟩ := fwdScan_FCh
          (cx := mkCtx (ds.restrict (ds.connSetOf (ds.scenarioOf p))) p (ds.connSetOf (ds.scenarioOf p))
            (routerLookup (ds.restrict (ds.connSetOf (ds.scenarioOf p))).access p.maxAccess) [] p.time (-1))
          ⟨fun c hc => hpos c (hsub c (hfr c hc)), fun z f hf => hwf.footNonneg _ (footOf_mem hf), hmw⟩ false
          ((ds.connSetOf (ds.scenarioOf p)).fwd.drop _) (fun a ha => List.mem_of_mem_drop ha)
          (List.Pairwise.sublist (List.drop_sublist _ _) (connSetOf_sortedFwd ds _))
        exact allNodes_tail _ _ _
          (fun n wh => forwardNode_no_exception hch (fun c hc => hr2 c (hsub c (hfr c hc))) n wh) what
  · rw [if_neg hfwd]
    split
    · simp
    · split
      · rename_i hl
        exact absurd hl (revStart_ne_none rfl _)
      · exact allNodes_tail _ _ _
          (fun n wh => reverseNode_no_exception (revScan_RInv _ false mem_of_filter (connSetOf_sorted ds _)
              (timeWF_dataset hwf p hmw hmt _ [] [] 0 0).arrMono hmw _)
            (timeWF_dataset hwf p hmw hmt _ _ _ _ _) (chainWF_dataset hwf hpos hr1 p _ _ _ _ _)
            (sliceOK_dataset hwf p _ _ _ _ _) (betweenOK_dataset hwf hr2 p _ _ _ _ _)
            (uniqueSeq_dataset hwf.toWFSchedule _) (fun c hc => hnn c (hsub c hc)) n wh) what

end Tr
