/-
  Property C08 — departure accessibility lists exactly the reachable stops, earliest arrivals.

  This file: the *soundness* half. Every stop a departure-time accessibility answer lists is
  reachable with the reported time: a traveller leaving the place at the requested time can board
  (`Boardable`: stands at the boarding stop, by the access walk or after earlier rides and one
  footpath each, no later than the departure minus the minimum waiting time; boarding permitted;
  trip not excluded) a connection `e` of a trip that alights (permitted) at the listed stop at
  `nodeTime`; `totalTravelTime` is `nodeTime` minus the requested time and within max_travel_time;
  each stop once, ascending; `totalNodeCount` is the number of stops. That every reachable stop is
  listed and that `nodeTime` is the EARLIEST such time is `C08_complete` / `C08_earliest`
  (`Props/C08Complete`).
-/
import TrVerif.Proofs.Forward
import TrVerif.Proofs.DataWF
namespace Tr

theorem connSetOf_fwd_mem_rev (ds : Dataset) (sc : Scenario) : ∀ c ∈ (ds.connSetOf sc).fwd, c ∈ (ds.connSetOf sc).rev :=
  fun _ hc => mem_connSetOf_rev.mpr (mem_connSetOf_fwd.mp hc)

theorem connSetOf_rev_mem_fwd (ds : Dataset) (sc : Scenario) : ∀ c ∈ (ds.connSetOf sc).rev, c ∈ (ds.connSetOf sc).fwd :=
  fun _ hc => mem_connSetOf_fwd.mpr (mem_connSetOf_rev.mp hc)

theorem connSetOf_sortedFwd (ds : Dataset) (sc : Scenario) : SortedFwd (ds.connSetOf sc).fwd := by
  simp only [Dataset.connSetOf, mkConnSet, Dataset.fwdAll]
  exact List.Pairwise.sublist List.filter_sublist (sorted_isort fwdLt fwdLt_strictWeak ds.conns)

theorem forwardNode_sound {cx : Ctx} {C pre : List Conn} {s : FState} (hI : FInv cx C pre s) {node : Nat} {a : AccNode}
    (h : forwardNode cx s node = .ok (some a)) :
    a.stop = node ∧ a.totalTravelTime = a.nodeTime - cx.depT ∧ a.totalTravelTime ≤ cx.p.maxTotal ∧
    ∃ e x, Boardable cx C e ∧ x ∈ C ∧ e.trip = x.trip ∧ e.seq ≤ x.seq ∧ x.canUnboard = true ∧
      x.arrStop = node ∧ x.arr = a.nodeTime := by
  unfold forwardNode at h
  split at h
  · simp at h
  · next first hegr =>
    split at h
    · cases h
    · obtain ⟨e, x, h1, h2, h3, h4, h5, h6, h7, h8⟩ := hI.egr node first hegr
      rw [h1, h2] at h
      simp only at h
      split at h
      · next hc =>
        simp only [Outcome.ok.injEq, Option.some.injEq] at h
        subst h
        exact ⟨rfl, rfl, hc, e, x, h8, h4, h5, h6, h7, h3, rfl⟩
      · simp at h

theorem fwdScan_FInv (cx : Ctx) (single : Bool) (start : Nat) (hs : SortedFwd cx.cs.fwd)
    (hdm : ∀ a ∈ cx.cs.fwd, ∀ b ∈ cx.cs.fwd, a.trip = b.trip → a.seq ≤ b.seq → a.dep ≤ b.dep) (hmw : 0 ≤ cx.p.minWait)
    (hb : ∀ c ∈ cx.cs.fwd, c.dep < MAX_INT) : FInv cx cx.cs.fwd (cx.cs.fwd.drop start) (fwdScan cx single start) :=
  fwdScanList_inv single cx.cs.fwd hdm hmw hb (cx.cs.fwd.drop start) [] (FState.init cx)
    (fun _ ha => List.mem_of_mem_drop ha) (hs.sublist (List.drop_sublist _ _)) (init_FInv cx _)

def accCtx (ds : Dataset) (p : Params) : Ctx :=
  mkCtx (ds.restrict (ds.connSetOf (ds.scenarioOf p))) p (ds.connSetOf (ds.scenarioOf p))
    (routerLookup ds.access p.maxAccess) [] p.time (-1)

theorem calculateAllNodes_fwd {ds : Dataset} {p : Params} (hp : p.forward = true) {l : List AccNode} {n : Nat}
    (h : calculateAllNodes ds p = .ok (l, n)) :
    ∃ start, lookupPos (fwdLookup (accCtx ds p).cs.fwd (accCtx ds p).cs.fwdIdx (hourOf p.time)) = some start ∧ n = ds.nStops ∧
      collectNodes (forwardNode (accCtx ds p) (fwdScan (accCtx ds p) false start)) (List.range ds.nStops) [] = .ok l := by
  unfold calculateAllNodes calculateAllNodesCS at h
  simp only [hp, if_true] at h
  split at h
  · cases h
  · split at h
    · cases h
    · next start hstart =>
      split at h
      · cases h
      · split at h
        · next l' hcoll =>
          simp only [Outcome.ok.injEq, Prod.mk.injEq] at h
          obtain ⟨rfl, rfl⟩ := h
          exact ⟨start, hstart, rfl, hcoll⟩
        · cases h
        · cases h

theorem accScan_FInv {ds : Dataset} (hwf : WFData ds) (p : Params) (hmw : 0 ≤ p.minWait) (hmt : 0 ≤ p.maxTransfer)
    (hb : TimesBounded ds) (start : Nat) :
    FInv (accCtx ds p) (ds.connSetOf (ds.scenarioOf p)).fwd ((ds.connSetOf (ds.scenarioOf p)).fwd.drop start)
      (fwdScan (accCtx ds p) false start) :=
  have hfr := connSetOf_fwd_mem_rev ds (ds.scenarioOf p)
  fwdScan_FInv (accCtx ds p) false start (connSetOf_sortedFwd ds _)
    (fun a ha b hb' => (timeWF_dataset hwf p hmw hmt (ds.scenarioOf p) (routerLookup ds.access p.maxAccess) [] p.time
      (-1)).depMono a (hfr a ha) b (hfr b hb'))
    hmw (fun c hc => hb c (connSetOf_rev_sub ds _ c (hfr c hc)))

/-- **C08 (soundness half).** -/
theorem C08_sound (ds : Dataset) (hwf : WFData ds) (p : Params) (hp : p.forward = true) (hmw : 0 ≤ p.minWait)
    (hmt : 0 ≤ p.maxTransfer) (hb : TimesBounded ds)
    {l : List AccNode} {n : Nat} (h : calculateAllNodes ds p = .ok (l, n)) :
    n = ds.nStops ∧ (l.map (·.stop)).Pairwise (· < ·) ∧
    ∀ a ∈ l, a.stop < ds.nStops ∧ a.totalTravelTime = a.nodeTime - p.time ∧ a.totalTravelTime ≤ p.maxTotal ∧
      ∃ e x,
        Boardable (mkCtx (ds.restrict (ds.connSetOf (ds.scenarioOf p))) p (ds.connSetOf (ds.scenarioOf p))
          (routerLookup ds.access p.maxAccess) [] p.time (-1)) (ds.connSetOf (ds.scenarioOf p)).fwd e ∧
        x ∈ (ds.connSetOf (ds.scenarioOf p)).fwd ∧ e.trip = x.trip ∧ e.seq ≤ x.seq ∧ x.canUnboard = true ∧
        x.arrStop = a.stop ∧ x.arr = a.nodeTime := by
  obtain ⟨start, _, rfl, hcoll⟩ := calculateAllNodes_fwd hp h
  have hinv := accScan_FInv hwf p hmw hmt hb start
  refine ⟨rfl, collectNodes_sorted _ (fun n a hn => (forwardNode_sound hinv hn).1) _ _ _ hcoll
    (by simpa using List.pairwise_lt_range), fun a ha => ?_⟩
  rcases collectNodes_mem _ _ _ _ hcoll a ha with h0 | ⟨m, hmr, hfm⟩
  · cases h0
  · obtain ⟨h1, h2, h3, e, x, k1, k2, k3, k4, k5, k6, k7⟩ := forwardNode_sound hinv hfm
    exact ⟨by rw [h1]; exact List.mem_range.mp hmr, h2, h3, e, x, k1, k2, k3, k4, k5, by rw [h1]; exact k6, k7⟩

end Tr
