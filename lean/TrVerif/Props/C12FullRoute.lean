/-
  Props/C12FullRoute — translation invariance of the calculation itself for ROUTE queries: emission,
  the best access stop after the single-query reverse scan (`revScan_shift`), `reverseJourney`, and the
  reverse pass as a whole (`reversePass_shift`), of which the arrival-time route query is the case without
  a requested departure time.
-/
import TrVerif.Props.C12FullRev
import TrVerif.Proofs.Assembly
import TrVerif.Props.C01
namespace Tr

def shStep (k : Int) : Step → Step
  | .walk kind tt dist dep arr ready => .walk kind tt dist (dep + k) (arr + k) (if kind = 2 then ready else ready + k)
  | .board trip seq stop dep wait => .board trip seq stop (dep + k) wait
  | .unboard trip seq stop arr ivt ivd => .unboard trip seq stop (arr + k) ivt ivd

def shRoute (k : Int) (r : Route) : Route :=
  { r with departureTime := r.departureTime + k, arrivalTime := r.arrivalTime + k, steps := r.steps.map (shStep k) }

/-- the accumulator of the emission pass before the first ride: only the "ready at" clock is set -/
def shE0 (k : Int) (a : EAcc) : EAcc := { a with transferArr := a.transferArr + k, steps := a.steps.map (shStep k) }
/-- the accumulator of the emission pass once a ride has been emitted: the arrival clock is set too -/
def shE (k : Int) (a : EAcc) : EAcc := { a with transferArr := a.transferArr + k, arrival := a.arrival + k, steps := a.steps.map (shStep k) }

structure EmitSame (ds ds' : Dataset) : Prop where
  dist : ∀ t, (ds'.pathOfTrip t).dist = (ds.pathOfTrip t).dist
  transferable : ∀ t, ds'.transferable t = ds.transferable t

theorem nextWaitOf_shift (k mw : Int) (next : Option JStep) : nextWaitOf mw (next.map (shJ k)) = nextWaitOf mw next := by
  unfold nextWaitOf
  cases next with
  | none => rfl
  | some nx =>
    simp only [Option.map_some, shJ]
    cases nx.enter <;> rfl

/-- `emitLeg` overwrites the arrival time of the accumulator without reading it, so this also covers the accumulator `shE0 k a` -/
theorem emitLeg_shift {k : Int} {ds ds' : Dataset} (h : EmitSame ds ds') (mw : Int) (n : Nat) (a : EAcc) (i : Nat) (js : JStep) (e x : Conn)
    (next : Option JStep) :
    emitLeg ds' mw n (shE k a) i (shJ k js) (shiftConn k e) (shiftConn k x) (next.map (shJ k)) = shE k (emitLeg ds mw n a i js e x next) := by
  have e1 : legHasDist ds' (shiftConn k e) (shiftConn k x) = legHasDist ds e x := by
    unfold legHasDist; rw [shiftConn_trip, shiftConn_seq, h.dist]
  have e2 : legIvd ds' (shiftConn k e) (shiftConn k x) = legIvd ds e x := by
    unfold legIvd; simp only [shiftConn_trip, shiftConn_seq, h.dist]
  have e3 : ds'.transferable (shiftConn k e).trip = ds.transferable e.trip := by rw [shiftConn_trip, h.transferable]
  have e4 : (shiftConn k x).arr - (shiftConn k e).dep = x.arr - e.dep := by rw [shiftConn_arr, shiftConn_dep]; omega
  have w : (shiftConn k e).dep - (a.transferArr + k) = e.dep - a.transferArr := by rw [shiftConn_dep]; omega
  unfold emitLeg
  simp only [e1, e2, e3, e4, nextWaitOf_shift, shE, shJ, w]
  congr 1
  · show x.arr + k + js.walk = x.arr + js.walk + k; omega
  · simp only [List.map_append, List.map_cons, List.map_nil, shStep]
    congr 1
    split
    · simp only [List.map_cons, List.map_nil, shStep]
      congr 2
      · show x.arr + k + js.walk = x.arr + js.walk + k; omega
      · simp only [show ¬ ((1 : Nat) = 2) by decide, if_false]
        show x.arr + k + js.walk + _ = x.arr + js.walk + _ + k; omega
    · rfl

theorem emitAccess_shift (k mw bd : Int) (js : JStep) (next : Option JStep) :
    emitAccess mw (bd + k) {} (shJ k js) (next.map (shJ k)) = shE0 k (emitAccess mw bd {} js next) := by
  unfold emitAccess
  simp only [nextWaitOf_shift, shE0, shJ, List.nil_append, List.map_cons, List.map_nil, shStep]
  congr 1
  · omega
  · simp only [show ¬ ((0 : Nat) = 2) by decide, if_false]
    congr 2
    · omega
    · omega

theorem emitEgress_shift (k : Int) (a : EAcc) (js : JStep) : emitEgress (shE k a) (shJ k js) = shE k (emitEgress a js) := by
  have e : a.arrival + k + js.walk = a.arrival + js.walk + k := by omega
  unfold emitEgress
  simp only [shE, shJ, List.map_append, List.map_cons, List.map_nil, shStep, if_true, e]
  rfl

theorem emitLoop_legs_shift {k : Int} {ds ds' : Dataset} (h : EmitSame ds ds') (mw bd : Int) (n : Nat) (egr : JStep) (hegr : egr.enter = none) :
    ∀ (legs : List JStep), (∀ l ∈ legs, ∃ e x, l.enter = some e ∧ l.exit = some x) → ∀ (i : Nat), 0 < i → ∀ (a a' : EAcc),
      (a' = shE k a ∨ (a' = shE0 k a ∧ legs ≠ [])) →
      emitLoop ds' mw (bd + k) n ((legs ++ [egr]).map (shJ k)) i a' = shE k (emitLoop ds mw bd n (legs ++ [egr]) i a) := by
  intro legs
  induction legs with
  | nil =>
    intro _ i hi a a' ha
    rcases ha with rfl | ⟨_, hne⟩
    · simp only [List.nil_append, List.map_cons, List.map_nil, emitLoop, emitStep, shJ, hegr, Option.map_none]
      have : ¬ i = 0 := by omega
      simp only [this, if_false]
      exact emitEgress_shift k a egr
    · exact absurd rfl hne
  | cons l legs ih =>
    intro hall i hi a a' ha
    obtain ⟨e, x, he, hx⟩ := hall l (by simp)
    simp only [List.cons_append, List.map_cons, emitLoop]
    have hstep : emitStep ds' mw (bd + k) n a' i (shJ k l) ((legs ++ [egr]).map (shJ k)).head? =
        shE k (emitStep ds mw bd n a i l (legs ++ [egr]).head?) := by
      have := emitLeg_shift (k := k) h mw n a i l e x (legs ++ [egr]).head?
      unfold emitStep
      simp only [shJ, he, hx, Option.map_some, List.head?_map] at this ⊢
      rcases ha with rfl | ⟨rfl, _⟩ <;> exact this
    rw [hstep]
    exact ih (fun y hy => hall y (List.mem_cons_of_mem _ hy)) (i+1) (by omega) _ _ (Or.inl rfl)

/-- a journey of the shape `reverseJourney` emits: access step, at least one ride, egress step -/
def EmitShape (j : List JStep) : Prop :=
  ∃ acc legs egr, j = [acc] ++ legs ++ [egr] ∧ acc.enter = none ∧ egr.enter = none ∧ legs ≠ [] ∧
    ∀ l ∈ legs, ∃ e x, l.enter = some e ∧ l.exit = some x

theorem emit_shift {k : Int} {ds ds' : Dataset} (h : EmitSame ds ds') (mw bd : Int) (j : List JStep) (hj : EmitShape j) :
    emit ds' mw (bd + k) (j.map (shJ k)) = shRoute k (emit ds mw bd j) := by
  obtain ⟨acc, legs, egr, rfl, hacc, hegr, hne, hall⟩ := hj
  unfold emit
  simp only [List.length_map]
  have hloop : emitLoop ds' mw (bd + k) ([acc] ++ legs ++ [egr]).length (([acc] ++ legs ++ [egr]).map (shJ k)) 0 {} =
      shE k (emitLoop ds mw bd ([acc] ++ legs ++ [egr]).length ([acc] ++ legs ++ [egr]) 0 {}) := by
    simp only [List.cons_append, List.nil_append, Nat.zero_add, List.map_cons, emitLoop]
    have hs : emitStep ds' mw (bd + k) (acc :: (legs ++ [egr])).length {} 0 (shJ k acc) ((legs ++ [egr]).map (shJ k)).head? =
        shE0 k (emitStep ds mw bd (acc :: (legs ++ [egr])).length {} 0 acc (legs ++ [egr]).head?) := by
      unfold emitStep
      simp only [shJ, hacc, Option.map_none, if_true, List.head?_map]
      have := emitAccess_shift k mw bd acc (legs ++ [egr]).head?
      simp only [shJ, hacc, Option.map_none] at this
      exact this
    rw [hs]
    exact emitLoop_legs_shift h mw bd _ egr hegr legs hall 1 (by omega) _ _ (Or.inr ⟨rfl, hne⟩)
  rw [hloop]
  simp only [shE, shRoute]
  congr 1
  omega

theorem revStep_shift1 {k L W : Int} {cx cx' : Ctx} {l : List Conn} (h : CtxShR k cx cx') (hL : 0 ≤ L) (hLk : 0 ≤ L + k)
    (hrfoot : ∀ z, ∀ f ∈ cx.ds.rfootOf z, f.time ≤ W) (hW : 0 ≤ W) (hmw : 0 ≤ cx.p.minWait) (u : Nat → Bool)
    (s : RState) (c : Conn) (hc : c ∈ l) (hs : RevInv1 L l s)
    (hca : L ≤ c.arr) (hdep : L ≤ c.dep - W - c.effWait cx.p.minWait) :
    revStep cx' u true (shR k s) (shiftConn k c) = shR k (revStep cx u true s c) ∧ RevInv1 L l (revStep cx u true s c) :=
  revStep_shift_inv1 h hL hLk hrfoot hW hmw u true s c hc hs hca hdep

/-- every departure time `bestAccess` may pick (boarding minus access walk minus waiting) lies in `[L, B]` -/
def AccBounds (L B : Int) (cx : Ctx) (l : List Conn) : Prop :=
  ∀ e ∈ l, ∀ a ∈ cx.accessFoot, L ≤ e.dep - a.time - e.effWait cx.p.minWait ∧ e.dep - a.time - e.effWait cx.p.minWait ≤ B

theorem bestAccessStep_shift {k L B : Int} {cx cx' : Ctx} {l : List Conn} (h : CtxShR k cx cx') (hL : 0 ≤ L) (hLk : 0 ≤ L + k)
    (hB : B + k < MAX_INT) (hB0 : B < MAX_INT) (s : RState) (hacc : AccFrom l s) (hb : AccBounds L B cx l)
    (acc : Int × Option Nat) (ha : (acc.2 = none ∧ acc.1 = -1) ∨ L ≤ acc.1) (a : NTD) :
    bestAccessStep cx' (shR k s) (shL k acc.1, acc.2) a = (shL k (bestAccessStep cx s acc a).1, (bestAccessStep cx s acc a).2) ∧
      (((bestAccessStep cx s acc a).2 = none ∧ (bestAccessStep cx s acc a).1 = -1) ∨ L ≤ (bestAccessStep cx s acc a).1) := by
  unfold bestAccessStep
  rw [shR_acc, nodesAccess_same h.same]
  cases hjs : s.acc a.stop with
  | none => exact ⟨rfl, ha⟩
  | some js =>
    obtain ⟨e0, he0, hje⟩ := hacc a.stop js hjs
    simp only [Option.map_some, shJ, hje]
    cases hna : cx.nodesAccess a.stop with
    | none => exact ⟨rfl, ha⟩
    | some ac =>
      simp only
      have hac : ac ∈ cx.accessFoot := List.mem_of_find?_eq_some hna
      obtain ⟨b1, b2⟩ := hb e0 he0 ac hac
      have et : (shiftConn k e0).dep - ac.time - (shiftConn k e0).effWait cx'.p.minWait = (e0.dep - ac.time - e0.effWait cx.p.minWait) + k := by
        rw [← h.same.mw]; show e0.dep + k - ac.time - e0.effWait cx.p.minWait = _; omega
      rw [et, h.arrT, h.maxTotal]
      generalize e0.dep - ac.time - e0.effWait cx.p.minWait = t at *
      have c1 : t + k ≥ 0 ↔ t ≥ 0 := by omega
      have c2 : cx.arrT + k - (t + k) ≤ cx.p.maxTotal ↔ cx.arrT - t ≤ cx.p.maxTotal := by omega
      have c3 : t + k > shL k acc.1 ↔ t > acc.1 := gt_shL hL hLk b1
      have c4 : t + k < MAX_INT ↔ t < MAX_INT := by omega
      simp only [c1, c2, c3, c4]
      by_cases g : t ≥ 0 ∧ cx.arrT - t ≤ cx.p.maxTotal ∧ t > acc.1 ∧ t < MAX_INT
      · simp only [if_pos g]; exact ⟨by rw [shL_fin k t L b1 hL], Or.inr b1⟩
      · simp only [if_neg g]; exact ⟨trivial, ha⟩

theorem bestAccess_shift {k L B : Int} {cx cx' : Ctx} {l : List Conn} (h : CtxShR k cx cx') (hL : 0 ≤ L) (hLk : 0 ≤ L + k)
    (hB : B + k < MAX_INT) (hB0 : B < MAX_INT) (s : RState) (hacc : AccFrom l s) (hb : AccBounds L B cx l) :
    bestAccess cx' (shR k s) = (bestAccess cx s).map fun r => (r.1 + k, r.2) := by
  rw [bestAccess_fold, bestAccess_fold, ← h.same.acc]
  obtain ⟨h1, h2⟩ := foldl_sim (fun acc : Int × Option Nat => (shL k acc.1, acc.2)) id (fun acc => (acc.2 = none ∧ acc.1 = -1) ∨ L ≤ acc.1)
    (fun _ => True) (fun acc a ha _ => bestAccessStep_shift h hL hLk hB hB0 s hacc hb acc ha a) cx.accessFoot (-1, none) (fun _ _ => trivial)
    (Or.inl ⟨rfl, rfl⟩)
  rw [List.map_id] at h1
  rw [show cx.accessFoot.foldl (bestAccessStep cx' (shR k s)) (-1, none) = _ from h1]
  generalize cx.accessFoot.foldl (bestAccessStep cx s) (-1, none) = r at *
  obtain ⟨t, o⟩ := r
  cases o with
  | none => rfl
  | some st =>
    simp only [Option.map_some]
    rcases h2 with ⟨h2, _⟩ | h2
    · simp at h2
    · simp only at h2; rw [shL_fin k t L h2 hL]

def shRouteOut (k : Int) : Outcome Route → Outcome Route
  | .ok r => .ok (shRoute k r)
  | .noRouting r => .noRouting r
  | .exception w => .exception w

/-- the journeys the original calculation emits have the access / rides / egress shape -/
def EmitsShaped (cx : Ctx) (s : RState) (best : Option (Int × Nat)) : Prop :=
  ∀ bd node first legs lastStop ac eg o, best = some (bd, node) → s.acc node = some first →
    reconLoop s.steps (cx.ds.nStops + 2) first [] none = some (legs, lastStop) → cx.nodesAccess node = some ac →
    lastStop.bind cx.nodesEgress = some eg →
    optimizeJourney cx.ds ([({ walk := ac.time, dist := ac.dist } : JStep)] ++ legs ++ [({ walk := eg.time, dist := eg.dist } : JStep)]) = some o →
    EmitShape o.journey

theorem reverseJourney_shift {k : Int} {cx cx' : Ctx} (h : CtxShR k cx cx') (ht : TripLists k cx.ds cx'.ds) (he : EmitSame cx.ds cx'.ds)
    (s : RState) (best : Option (Int × Nat)) (hshape : EmitsShaped cx s best) :
    reverseJourney cx' (shR k s) (best.map fun r => (r.1 + k, r.2)) = shRouteOut k (reverseJourney cx s best) := by
  unfold reverseJourney
  cases hb : best with
  | none => rfl
  | some b =>
    obtain ⟨bd, node⟩ := b
    simp only [Option.map_some]
    rw [shR_acc]
    cases hs : s.acc node with
    | none => rfl
    | some first =>
      simp only [Option.map_some]
      rw [recon_shift ht]
      cases hr : reconLoop s.steps (cx.ds.nStops + 2) first [] none with
      | none => rfl
      | some r =>
        obtain ⟨legs, lastStop⟩ := r
        simp only [Option.map_some]
        rw [funext (nodesEgress_same h.same), nodesAccess_same h.same]
        cases hna : cx.nodesAccess node with
        | none => rfl
        | some ac =>
          cases heg : lastStop.bind cx.nodesEgress with
          | none => rfl
          | some eg =>
            simp only
            have hj : [({ walk := ac.time, dist := ac.dist } : JStep)] ++ legs.map (shJ k) ++ [({ walk := eg.time, dist := eg.dist } : JStep)] =
                ([({ walk := ac.time, dist := ac.dist } : JStep)] ++ legs ++ [({ walk := eg.time, dist := eg.dist } : JStep)]).map (shJ k) := by
              simp [shJ]
            rw [hj, optimizeJourney_shift ht]
            cases ho : optimizeJourney cx.ds ([({ walk := ac.time, dist := ac.dist } : JStep)] ++ legs ++ [({ walk := eg.time, dist := eg.dist } : JStep)]) with
            | none => rfl
            | some o =>
              simp only [Option.map_some, shO, shRouteOut, ← h.same.mw]
              congr 1
              exact emit_shift he cx.p.minWait bd o.journey (hshape bd node first legs lastStop ac eg o hb hs hr hna heg ho)

/-- range conditions of the reverse pass in a context -/
structure RevRange1 (cx : Ctx) (k L B W : Int) : Prop where
  hL : 0 ≤ L
  hLk : 0 ≤ L + k
  hB : B + k < MAX_INT
  hB0 : B < MAX_INT
  hW : 0 ≤ W
  rfoot : ∀ z, ∀ f ∈ cx.ds.rfootOf z, f.time ≤ W
  mw : 0 ≤ cx.p.minWait
  conns : ConnsGe L W cx.p.minWait cx.cs.rev
  egress : LabsInit L cx
  access : AccBounds L B cx cx.cs.rev

theorem singleReverse0_shift {k L B W : Int} {cx cx' : Ctx} (h : CtxShR k cx cx') (ht : TripLists k cx.ds cx'.ds) (he : EmitSame cx.ds cx'.ds)
    (hrev : cx'.cs.rev = cx.cs.rev.map (shiftConn k)) (R : RevRange1 cx k L B W) (u : Nat → Bool)
    (hshape : EmitsShaped cx (revScan cx u true 0) (bestAccess cx (revScan cx u true 0))) :
    singleReverse0 cx' u = shRouteOut k (singleReverse0 cx u) := by
  obtain ⟨hs, hinv'⟩ := revScan_shift h hrev R.hL R.hLk R.rfoot R.hW R.mw R.conns R.egress u true
  unfold singleReverse0
  simp only
  rw [hs, bestAccess_shift h R.hL R.hLk R.hB R.hB0 _ hinv'.acc R.access]
  show (if (revScan cx u true 0).count = 0 then _ else _) = _
  split
  · rfl
  · exact reverseJourney_shift h ht he _ _ hshape

theorem emitsShaped_of_inv {cx : Ctx} {pre : List Conn} {s : RState} (hI : RInv cx pre s) (hclean : CleanupPreserves cx pre) :
    EmitsShaped cx s (bestAccess cx s) := by
  intro bd node js legs lastStop ac eg o hb hacc hrec hna heg hopt
  obtain ⟨a, ls, e, hj, ha, he, hne, hok, _⟩ := hclean bd _ o (recon_journeyOK hI hb hacc hrec hna heg) hopt
  exact ⟨a, ls, e, hj, ha, he, hne, LegsOK.allLegs hok⟩

theorem emitsShaped_revScan {cx : Ctx} (u : Nat → Bool) (hm : ArrMono cx.cs.rev) (hmw : 0 ≤ cx.p.minWait) (hsorted : SortedRev cx.cs.rev)
    (hclean : CleanupPreserves cx cx.cs.rev) : EmitsShaped cx (revScan cx u true 0) (bestAccess cx (revScan cx u true 0)) := by
  refine emitsShaped_of_inv ?_ hclean
  have := revScanList_inv (cx := cx) u true cx.cs.rev hm hmw cx.cs.rev [] (RState.init cx) (fun _ h => h) hsorted (init_RInv cx)
  unfold revScan; rwa [List.drop_zero]

theorem emitSame_shift (k : Int) (ds : Dataset) : EmitSame ds (shiftDs k ds) :=
  ⟨fun t => congrArg PathRec.dist (pathOfTrip_shift k ds t), transferable_shift k ds⟩

/-- range conditions of the arrival-time route theorem (all about clock values staying clear of the sentinels -1 and MAX_INT) -/
structure RouteRevRange (ds : Dataset) (p : Params) (k L B W : Int) : Prop where
  hL : 0 ≤ L
  hLk : 0 ≤ L + k
  hB : B + k < MAX_INT
  hB0 : B < MAX_INT
  hW : 0 ≤ W
  rfoot : ∀ z, ∀ f ∈ ds.rfootOf z, f.time ≤ W
  conns : ConnsGe L W p.minWait (ds.connSetOf (ds.scenarioOf p)).rev
  egress : ∀ e ∈ ds.egress, L ≤ p.time - e.time
  access : ∀ e ∈ (ds.connSetOf (ds.scenarioOf p)).rev, ∀ a ∈ ds.access,
    L ≤ e.dep - a.time - e.effWait p.minWait ∧ e.dep - a.time - e.effWait p.minWait ≤ B

/-- for an arrival-time query `dT = -1` and every trip is usable; for the second pass of a departure-time query `dT` is the
    requested departure time and `u` marks the trips the forward pass found usable -/
theorem reversePass_shift (ds : Dataset) (hwf : WFData ds) (p : Params) (k L B W : Int) (hal : TripsAligned ds)
    (hmw : 0 ≤ p.minWait) (hmt : 0 ≤ p.maxTransfer) (dT dT' aT : Int) (u : Nat → Bool)
    (hd : (dT = -1 ∧ dT' = -1) ∨ (dT ≠ -1 ∧ dT' ≠ -1 ∧ dT' = dT + k))
    (R : RouteRevRange ds { p with time := aT } k L B W) :
    singleReverse0 (mkCtx ((shiftDs k ds).restrict ((shiftDs k ds).connSetOf (ds.scenarioOf p))) (shiftP k p) ((shiftDs k ds).connSetOf (ds.scenarioOf p))
        (routerLookup ds.access p.maxAccess) (routerLookup ds.egress p.maxEgress) dT' (aT + k)) u =
      shRouteOut k (singleReverse0 (mkCtx (ds.restrict (ds.connSetOf (ds.scenarioOf p))) p (ds.connSetOf (ds.scenarioOf p))
        (routerLookup ds.access p.maxAccess) (routerLookup ds.egress p.maxEgress) dT aT) u) := by
  have hsh := ctxShR_shift k ds p (routerLookup ds.access p.maxAccess) (routerLookup ds.egress p.maxEgress) dT dT' aT (aT + k) hd rfl
  have hes : EmitSame (ds.restrict (ds.connSetOf (ds.scenarioOf p))) ((shiftDs k ds).restrict ((shiftDs k ds).connSetOf (ds.scenarioOf p))) := by
    rw [restrict_shift]; exact emitSame_shift k _
  have hsub := connSetOf_rev_sub ds (ds.scenarioOf p)
  exact singleReverse0_shift hsh (tripLists_restrict_shift k ds hal _) hes (rev_list_shift k ds hal _)
    ⟨R.hL, R.hLk, R.hB, R.hB0, R.hW, R.rfoot, hmw, R.conns, fun e he => R.egress e (List.mem_filter.1 he).1,
      fun e he a ha => R.access e he a (List.mem_filter.1 ha).1⟩ u
    (emitsShaped_revScan u (fun x hx y hy => conns_arrMono hwf.toWFSchedule x (hsub x hx) y (hsub y hy)) hmw (connSetOf_sorted ds _)
      (cleanupPreserves (timeWF_dataset hwf p hmw hmt _ _ _ dT aT) (sliceOK_dataset hwf p _ _ _ dT aT)))

/-- the three tests of a route query for footpaths at the two ends -/
theorem routeGuards_shift (k : Int) (a e : Bool) {x x' : Outcome Route} (h : x' = shRouteOut k x) :
    (if a = true ∧ e = true then .noRouting .noAccessAtOriginAndDestination else if a = true then .noRouting .noAccessAtOrigin
      else if e = true then .noRouting .noAccessAtDestination else x') =
    shRouteOut k (if a = true ∧ e = true then .noRouting .noAccessAtOriginAndDestination else if a = true then .noRouting .noAccessAtOrigin
      else if e = true then .noRouting .noAccessAtDestination else x) := by
  subst h; cases a <;> cases e <;> rfl

/-- **C12 in full for arrival-time route queries**: for every well-formed dataset, every query and every offset (range conditions
    only), the answer of the shifted problem is the shifted answer of the original one - status, reason, and for a route every clock
    time moved by `k`, every duration, distance, count, stop, line and trip unchanged (`shRoute`). -/
theorem C12_full_route_arrival (ds : Dataset) (hwf : WFData ds) (p : Params) (k L B W : Int) (hal : TripsAligned ds) (hf : p.forward = false)
    (hmw : 0 ≤ p.minWait) (hmt : 0 ≤ p.maxTransfer) (R : RouteRevRange ds p k L B W) :
    calculateSingle0 (shiftDs k ds) (shiftP k p) = shRouteOut k (calculateSingle0 ds p) := by
  have hfw : (shiftP k p).forward = false := hf
  unfold calculateSingle0 calculateSingleWith0
  simp only [hfw, hf, Bool.false_eq_true, if_false]
  exact routeGuards_shift k _ _ (reversePass_shift ds hwf p k L B W hal hmw hmt (-1) (-1) p.time (fun _ => true) (Or.inl ⟨rfl, rfl⟩) R)

/-- non-vacuity of `RouteRevRange`, for an offset that moves the request across an hour mark; the two routes are shifted copies -/
theorem nv_full_route_arrival :
    RouteRevRange nvDs' nvRev' 1700 600 100000 60 ∧
    (match calculateSingle nvDs' nvRev', calculateSingle (shiftDs 1700 nvDs') (shiftP 1700 nvRev') with
      | .ok r, .ok r' => decide (shRoute 1700 r = r') && decide (r.steps.length = 4)
      | _, _ => false) = true := by
  refine ⟨⟨by decide, by decide, by decide, by decide, by decide, rfootOf_time_le _ 60 (by decide), ?_, by decide, by decide⟩, by decide⟩
  unfold ConnsGe; decide

/-- `C12_full_route_arrival` for the calculation WITH the hour index (what the server runs), for requests inside [0, 32 h) on
    both sides of the shift and non-negative router walks -/
theorem C12_full_route_arrival_indexed (ds : Dataset) (hwf : WFData ds) (p : Params) (k L B W : Int) (hal : TripsAligned ds) (hf : p.forward = false)
    (hmw : 0 ≤ p.minWait) (hmt : 0 ≤ p.maxTransfer) (R : RouteRevRange ds p k L B W)
    (h0 : 0 ≤ p.time) (ht : p.time < (HOUR_END : Int) * 3600) (h0' : 0 ≤ p.time + k) (ht' : p.time + k < (HOUR_END : Int) * 3600)
    (hacc : ∀ a ∈ ds.access, 0 ≤ a.time) (hegr : ∀ g ∈ ds.egress, 0 ≤ g.time) :
    calculateSingle (shiftDs k ds) (shiftP k p) = shRouteOut k (calculateSingle ds p) := by
  rw [C12_index_transparent_route ds p h0 ht hacc hegr, C12_index_transparent_route (shiftDs k ds) (shiftP k p) h0' ht' hacc hegr]
  exact C12_full_route_arrival ds hwf p k L B W hal hf hmw hmt R

end Tr
