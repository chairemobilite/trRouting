/-
  Property C19 — summary answers aggregate exactly the routes of the same query.

  Model: `summaryAnswer` runs `routeAnswer` (the structural fact that the summary handler mirrors
  the route handler is read off the source by the translator: `Gen.facts`, theorem
  `C19_handlers_mirror`) and aggregates with `summaryIncr`, the model of the `std::map`
  accumulation in `result_to_v2_summary.cpp:62-91`.  The identifying fields of a summary line come from
  the line's record: the model renders agency `(ds.lineRec l).agency`.
-/
import TrVerif.Model.Render
namespace Tr

def KeysSorted : List (Nat × Nat) → Prop
  | [] => True
  | [_] => True
  | (k1, _) :: (k2, c2) :: rest => k1 < k2 ∧ KeysSorted ((k2, c2) :: rest)

def lookupKey (l : Nat) : List (Nat × Nat) → Option Nat
  | [] => none
  | (k, c) :: rest => if k = l then some c else lookupKey l rest

def Below (b : Nat) : List (Nat × Nat) → Prop
  | [] => True
  | (k, _) :: _ => b < k

theorem keysSorted_cons {k c : Nat} {m : List (Nat × Nat)} : KeysSorted ((k, c) :: m) ↔ Below k m ∧ KeysSorted m := by
  cases m with
  | nil => exact ⟨fun _ => ⟨trivial, trivial⟩, fun _ => trivial⟩
  | cons hd tl => exact Iff.rfl

theorem Below.mono {a b : Nat} (h : a < b) : ∀ {m : List (Nat × Nat)}, Below b m → Below a m
  | [], _ => trivial
  | _ :: _, hb => Nat.lt_trans h hb

theorem below_summaryIncr {b l : Nat} (hb : b < l) : ∀ {m : List (Nat × Nat)}, Below b m → Below b (summaryIncr l m)
  | [], _ => hb
  | (k, c) :: rest, h => by
    simp only [summaryIncr]
    split
    · exact hb
    · split <;> exact h

theorem lookup_below {l : Nat} : ∀ {m : List (Nat × Nat)}, Below l m → KeysSorted m → lookupKey l m = none
  | [], _, _ => rfl
  | (k, c) :: rest, hb, hs => by
    obtain ⟨hk, hr⟩ := keysSorted_cons.mp hs
    rw [lookupKey, if_neg (Nat.ne_of_gt hb)]
    exact lookup_below (hk.mono hb) hr

theorem summaryIncr_sorted (l : Nat) : ∀ m, KeysSorted m → KeysSorted (summaryIncr l m)
  | [], _ => trivial
  | (k, c) :: rest, h => by
    obtain ⟨hb, hr⟩ := keysSorted_cons.mp h
    simp only [summaryIncr]
    split
    · exact ⟨‹l < k›, h⟩
    · split
      · exact keysSorted_cons.mpr ⟨hb, hr⟩
      · -- `l` goes in behind `k`, so the first key of the new tail is still above `k`
        exact keysSorted_cons.mpr ⟨below_summaryIncr (by omega) hb, summaryIncr_sorted l rest hr⟩

theorem lookup_summaryIncr (l x : Nat) : ∀ m, KeysSorted m →
    lookupKey x (summaryIncr l m) = if x = l then some ((lookupKey l m).getD 0 + 1) else lookupKey x m := by
  intro m
  induction m with
  | nil => intro _; by_cases h : l = x <;> simp [summaryIncr, lookupKey, h, eq_comm]
  | cons hd tl ih =>
    intro hs
    obtain ⟨k, c⟩ := hd
    have ih := ih (keysSorted_cons.mp hs).2
    simp only [summaryIncr]
    by_cases hlt : l < k
    · -- a new least key: `l` was absent
      rw [if_pos hlt, lookup_below (m := (k, c) :: tl) hlt hs]
      by_cases h : l = x <;> simp [lookupKey, h, eq_comm]
    · rw [if_neg hlt]
      by_cases hlk : l = k
      · subst hlk
        by_cases h : l = x <;> simp [lookupKey, h, eq_comm]
      · rw [if_neg hlk]
        by_cases hkx : k = x
        · have : ¬ x = l := fun e => hlk (e ▸ hkx.symm)
          simp [lookupKey, hkx, this]
        · have hkl : ¬ k = l := fun e => hlk e.symm
          simp only [lookupKey, if_neg hkx, if_neg hkl, ih]

theorem foldl_summaryIncr (lines : List Nat) : ∀ m, KeysSorted m →
    KeysSorted (lines.foldl (fun m l => summaryIncr l m) m) ∧
    ∀ x, lookupKey x (lines.foldl (fun m l => summaryIncr l m) m) =
      if lines.count x = 0 then lookupKey x m else some ((lookupKey x m).getD 0 + lines.count x) := by
  induction lines with
  | nil => exact fun m hs => ⟨hs, fun x => rfl⟩
  | cons l rest ih =>
    intro m hs
    obtain ⟨r1, r2⟩ := ih _ (summaryIncr_sorted l m hs)
    refine ⟨r1, fun x => ?_⟩
    rw [List.foldl_cons, r2, lookup_summaryIncr l x m hs, List.count_cons]
    by_cases h : x = l
    · subst h
      by_cases h0 : rest.count x = 0 <;> simp [h0]
      omega
    · have hne : (l == x) = false := by simpa using Ne.symm h
      simp [h, hne]

theorem summaryCounts_spec (lines : List Nat) :
    KeysSorted (summaryCounts lines) ∧
    ∀ x, lookupKey x (summaryCounts lines) = if lines.count x = 0 then none else some (lines.count x) := by
  simpa [summaryCounts, lookupKey] using foldl_summaryIncr lines [] trivial

def boardingsOfLine (ds : Dataset) (rs : List Route) (x : Nat) : Nat := (rs.flatMap (routeLines ds)).count x

/-- **C19.** Whatever the dataset and the request: if `/v2/route` answers with routes `rs`
    (or with no routing: `rs = []`), `/v2/summary` answers success with `nbRoutes = |rs|`, lists
    each line at most once (keys strictly increasing), and a line is listed exactly when it is
    boarded in `rs`, with the number of its boardings over all those routes as count. -/
theorem C19_summary (ds : Dataset) (p : Params) :
    match routeAnswer ds p with
    | .exception _ => ∃ w, summaryAnswer ds p = .exception w
    | .ok (rs, _) => ∃ ls, summaryAnswer ds p = .ok (rs.length, ls) ∧ KeysSorted ls ∧
        ∀ x, lookupKey x ls = if boardingsOfLine ds rs x = 0 then none else some (boardingsOfLine ds rs x)
    | .noRouting _ => summaryAnswer ds p = .ok (0, []) := by
  unfold summaryAnswer summaryAnswerCS routeAnswer
  cases h : routeAnswerCS ds (ds.connSetOf (ds.scenarioOf p)) p with
  | exception w => exact ⟨w, rfl⟩
  | noRouting r => simp [summaryOf, summaryCounts]
  | ok a =>
    obtain ⟨rs, n⟩ := a
    exact ⟨_, rfl, summaryCounts_spec (rs.flatMap (routeLines ds))⟩

/-- the summary handler is the route handler with another renderer (read off the source) -/
theorem C19_handlers_mirror : Gen.facts.lookup "summary_mirrors_route" = some true := by decide

example : summaryCounts [3, 1, 3, 2, 3] = [(1, 1), (2, 1), (3, 3)] := by decide

end Tr
