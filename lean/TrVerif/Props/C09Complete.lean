/-
  Property C09, the completeness half: every stop from which the place can still be reached by the
  requested time (within max_travel_time) is listed, with a nodeTime at least as late as any
  usable boarding there minus its minimum waiting time (`C09_sound`, the other half, gives for every
  listed stop a chain of scheduled rides from it that reaches the place in time).

  Domain: well-formed data, every hop takes positive time, non-negative
  egress walks, the router lists each stop once, minimum waiting time and transfer maximum not
  negative, boarding stops of the timetable are stops of the data (`DepStopsInRange`), requested time not before 0:00 (no upper
  bound: beyond the last hour the reverse lookup starts at the first connection).
-/
import TrVerif.Proofs.ReverseComplete
import TrVerif.Proofs.HourIndex
import TrVerif.Props.C09
namespace Tr

theorem revScan_RC {cx : Ctx} (w : RW cx cx.cs.rev) (hs : SortedRev cx.cs.rev) (start : Nat) :
    RC cx (cx.cs.rev.drop start) (revScan cx (fun _ => true) false start) :=
  revScanList_RC w (cx.cs.rev.drop start) [] (RState.init cx) (fun _ ha => List.mem_of_mem_drop ha)
    (List.Pairwise.sublist (List.drop_sublist _ _) hs) (init_RC cx w.egrNodup)

theorem reverseNode_complete {cx : Ctx} {s : RState} {node : Nat} {b : Int} (ha : AccGe cx s node b)
    (hb : cx.arrT - b ≤ cx.p.maxTotal) {o : Option AccNode} (h : reverseNode cx s node = .ok o) :
    ∃ a, o = some a ∧ a.stop = node ∧ b ≤ a.nodeTime := by
  obtain ⟨js, e, hj, he, hbe⟩ := ha
  obtain ⟨_, _, _, _, _, n, rfl⟩ := reverseNode_ok hj he h
  rw [if_pos (by omega)]
  exact ⟨_, rfl, rfl, by simp only; omega⟩

theorem RW_dataset' {ds : Dataset} (hwf : WFData ds) (p : Params) (hmw : 0 ≤ p.minWait) (hmt : 0 ≤ p.maxTransfer)
    (hpos : PosHops ds) (hegr : ∀ g ∈ ds.egress, 0 ≤ g.time) (hend : (ds.egress.map (·.stop)).Nodup) (a : List NTD)
    (dT aT : Int) :
    RW (mkCtx (ds.restrict (ds.connSetOf (ds.scenarioOf p))) p (ds.connSetOf (ds.scenarioOf p))
        a (routerLookup ds.egress p.maxEgress) dT aT) (ds.connSetOf (ds.scenarioOf p)).rev := by
  have hsub := connSetOf_rev_sub ds (ds.scenarioOf p)
  have hw := timeWF_dataset hwf p hmw hmt (ds.scenarioOf p) a (routerLookup ds.egress p.maxEgress) dT aT
  refine ⟨?_, hw.depMono, hw.arrMono, ?_, hw.footNonneg, ?_, hmw, ?_, ?_⟩
  · intro c hc; exact hpos c (hsub c hc)
  · intro a' ha b hb; exact conns_unique hwf.toWFSchedule a' (hsub a' ha) b (hsub b hb)
  · intro c hc
    obtain ⟨d, hd⟩ := hw.selfFoot c hc
    exact ⟨⟨c.depStop, 0, d⟩, hd, rfl, hmt⟩
  · intro g hg; exact hegr g (List.mem_filter.mp hg).1
  · exact routerLookup_nodup _ _ hend

theorem RW_dataset {ds : Dataset} (hwf : WFData ds) (p : Params) (hmw : 0 ≤ p.minWait) (hmt : 0 ≤ p.maxTransfer)
    (hpos : PosHops ds) (hegr : ∀ g ∈ ds.egress, 0 ≤ g.time) (hend : (ds.egress.map (·.stop)).Nodup) :
    RW (mkCtx (ds.restrict (ds.connSetOf (ds.scenarioOf p))) p (ds.connSetOf (ds.scenarioOf p))
        [] (routerLookup ds.egress p.maxEgress) (-1) p.time) (ds.connSetOf (ds.scenarioOf p)).rev :=
  RW_dataset' hwf p hmw hmt hpos hegr hend [] (-1) p.time

/-- **C09 (completeness half).** -/
theorem C09_complete (ds : Dataset) (hwf : WFData ds) (p : Params) (hp : p.forward = false) (hmw : 0 ≤ p.minWait)
    (hmt : 0 ≤ p.maxTransfer) (hpos : PosHops ds) (hrange : DepStopsInRange ds)
    (hegr : ∀ g ∈ ds.egress, 0 ≤ g.time) (hend : (ds.egress.map (·.stop)).Nodup) (h0 : 0 ≤ p.time)
    {l : List AccNode} {n : Nat} (h : calculateAllNodes ds p = .ok (l, n)) :
    ∀ e ∈ (ds.connSetOf (ds.scenarioOf p)).rev, ∀ x ∈ (ds.connSetOf (ds.scenarioOf p)).rev,
      UnboardP (mkCtx (ds.restrict (ds.connSetOf (ds.scenarioOf p))) p (ds.connSetOf (ds.scenarioOf p))
        [] (routerLookup ds.egress p.maxEgress) (-1) p.time) (ds.connSetOf (ds.scenarioOf p)).rev x →
      e.trip = x.trip → e.seq ≤ x.seq → e.canBoard = true →
      p.time - (e.dep - e.effWait p.minWait) ≤ p.maxTotal →
      ∃ a ∈ l, a.stop = e.depStop ∧ e.dep - e.effWait p.minWait ≤ a.nodeTime := by
  intro e he x hx hunb htrip hseq hcb hlim
  obtain ⟨start, hstart, rfl, hcoll⟩ := calculateAllNodes_rev hp h
  have w : RW (raccCtx ds p) (raccCtx ds p).cs.rev := RW_dataset hwf p hmw hmt hpos hegr hend
  -- the ride lies in the scanned range, where the completeness invariant has its boarding kept
  obtain ⟨heP, hxP, huP, hphe, _, _⟩ := ride_scanned_rev w (fun _ ha => ha)
    (fun a ha hd => mem_drop_start_rev (raccCtx ds p).cs rfl p.time h0 start hstart ha hd) he hx hunb htrip hseq
  have hwe := effWait_nonneg e p.minWait hmw
  have hacc := (revScan_RC w (connSetOf_sorted ds _) start).acc e heP x hxP huP htrip hseq hcb (Or.inl rfl)
    (by show p.time - e.arr ≤ p.maxTotal; omega)
  have hxr : e.depStop ∈ List.range ds.nStops := List.mem_range.mpr (hrange e (connSetOf_rev_sub ds _ e he))
  obtain ⟨o, hfo, hol⟩ := (collectNodes_all _ _ _ _ hcoll).2 e.depStop hxr
  obtain ⟨a, hoa, has, hat⟩ := reverseNode_complete hacc hlim hfo
  exact ⟨a, hol a hoa, has, hat⟩

/-- **C09.** nodeTime is the latest: no usable boarding at a listed stop leaves (after its minimum
    waiting time) later than the listed time. -/
theorem C09_latest (ds : Dataset) (hwf : WFData ds) (p : Params) (hp : p.forward = false) (hmw : 0 ≤ p.minWait)
    (hmt : 0 ≤ p.maxTransfer) (hpos : PosHops ds) (hrange : DepStopsInRange ds)
    (hegr : ∀ g ∈ ds.egress, 0 ≤ g.time) (hend : (ds.egress.map (·.stop)).Nodup) (h0 : 0 ≤ p.time)
    {l : List AccNode} {n : Nat} (h : calculateAllNodes ds p = .ok (l, n)) :
    ∀ a ∈ l, ∀ e ∈ (ds.connSetOf (ds.scenarioOf p)).rev, ∀ x ∈ (ds.connSetOf (ds.scenarioOf p)).rev,
      UnboardP (mkCtx (ds.restrict (ds.connSetOf (ds.scenarioOf p))) p (ds.connSetOf (ds.scenarioOf p))
        [] (routerLookup ds.egress p.maxEgress) (-1) p.time) (ds.connSetOf (ds.scenarioOf p)).rev x →
      e.trip = x.trip → e.seq ≤ x.seq → e.canBoard = true →
      p.time - (e.dep - e.effWait p.minWait) ≤ p.maxTotal → e.depStop = a.stop →
      e.dep - e.effWait p.minWait ≤ a.nodeTime := by
  intro a ha e he x hx hu ht hs hcb hlim hstop
  obtain ⟨a', ha', hs', ht'⟩ := C09_complete ds hwf p hp hmw hmt hpos hrange hegr hend h0 h e he x hx hu ht hs hcb hlim
  have hsorted := (C09_sound ds hwf p hp hmw h).2.1
  have : a' = a := same_stop_eq hsorted ha' ha (by rw [hs', hstop])
  rw [← this]; exact ht'

end Tr
