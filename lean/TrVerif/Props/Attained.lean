/-
  The bounds of C03 / C04 / C05 are attained: the route a calculation returns is itself an
  admissible journey in the sense of the optimality theorems (`Proofs/Achieve.lean`), so

    * C03: the reported arrival time IS the minimum arrival over admissible journeys,
    * C04: the reported departure time IS the maximum departure over admissible journeys,
    * C05: the reported departure is attained by a journey that meets the reported arrival.

  `calcWith_attained_fwd` / `_rev` say so for a calculation over any scenario's connection set with
  any walking tables (the recalculations of the alternatives search), together with the time
  clauses of C02.
-/
import TrVerif.Proofs.Achieve
import TrVerif.Props.C03
namespace Tr

theorem LegsOK.arrT {cx : Ctx} {C : List Conn} (A : Int) : ∀ {legs : List JStep}, LegsOK cx C legs →
    LegsOK { cx with arrT := A } C legs := by
  intro legs
  induction legs with
  | nil => intro _; trivial
  | cons l rest ih =>
    intro h
    cases rest with
    | nil => exact h
    | cons l' r' => exact ⟨h.1, ih h.2⟩

theorem journeyOK_exact {cx : Ctx} {C : List Conn} {bd : Int} {j : List JStep} (h : JourneyOK cx C bd j) :
    JourneyOK { cx with arrT := (emit cx.ds cx.p.minWait bd j).arrivalTime } C bd j := by
  obtain ⟨acc, legs, egr, rfl, hacc, hegr, hne, hok, hfirst, hlast⟩ := h
  refine ⟨acc, legs, egr, rfl, hacc, hegr, hne, hok.arrT _, hfirst, ?_⟩
  intro l x hl hx
  refine ⟨(hlast l x hl hx).1, fun _ => ?_⟩
  show x.arr + egr.walk ≤ (emit cx.ds cx.p.minWait bd ([acc] ++ legs ++ [egr])).arrivalTime
  rw [emit_arrival _ _ _ acc egr legs hacc hegr hne hok.allLegs, finalArrival_last egr legs l x hl hx]
  exact Int.le_refl _

theorem AdmFwd.mono_set {cx : Ctx} {P P' : List Conn} (hp : ∀ a ∈ P, a ∈ P') {e x : Conn} {g : NTD}
    (h : AdmFwd cx P e x g) : AdmFwd cx P' e x g := by
  obtain ⟨⟨hcb, hdis, t, hr, ht⟩, h2, h3, h4, h5, h6, h7, h8⟩ := h
  exact ⟨⟨hcb, hdis, t, hr.mono_set hp, ht⟩, hp _ h2, hp _ h3, h4, h5, h6, h7, h8⟩

theorem calcWith_admFwd (ds : Dataset) (hwf : WFData ds) (sc : Scenario) (p : Params) (hp : p.forward = true)
    (hmw : 0 ≤ p.minWait) (hmt : 0 ≤ p.maxTransfer) (a e : List NTD) {r : Route}
    (h : calculateSingleWith (ds.restrict (ds.connSetOf sc)) (ds.connSetOf sc) p a e = .ok r) :
    ∃ ec xc g, AdmFwd (mkCtx (ds.restrict (ds.connSetOf sc)) p (ds.connSetOf sc) a e p.time (-1)) (ds.connSetOf sc).fwd ec xc g ∧
      xc.arr + g.time = r.arrivalTime := by
  obtain ⟨depT, arrT, bd, j, rfl, hJ, hF, _⟩ := calcWith_journey hwf sc p hmw hmt a e h
  obtain ⟨rfl, hbd⟩ := hF hp
  obtain ⟨ec, xc, g, hAdm, harr⟩ := journeyOK_admFwd allowed_not_disabled hJ hbd
  obtain ⟨⟨hcb, hdis, t, hr, ht⟩, h2, h3, h4, h5, h6, h7, h8⟩ :=
    hAdm.mono_set (fun c hc => connSetOf_rev_mem_fwd ds _ c (List.mem_filter.mp hc).1)
  -- `Reach` does not read the arrival time of the context
  exact ⟨ec, xc, g, ⟨⟨hcb, hdis, t, hr.arrT (-1), ht⟩, h2, h3, h4, h5, h6, h7, h8⟩, harr⟩

theorem calcWith_attained_fwd (ds : Dataset) (hwf : WFData ds) (sc : Scenario) (p : Params) (hp : p.forward = true)
    (hmw : 0 ≤ p.minWait) (hmt : 0 ≤ p.maxTransfer) (a e : List NTD) (hend : (e.map (·.stop)).Nodup) {r : Route}
    (h : calculateSingleWith (ds.restrict (ds.connSetOf sc)) (ds.connSetOf sc) p a e = .ok r) :
    ∃ ec xc g, AdmFwd (mkCtx (ds.restrict (ds.connSetOf sc)) p (ds.connSetOf sc) a e p.time (-1)) (ds.connSetOf sc).fwd ec xc g ∧
      xc.arr + g.time = r.arrivalTime ∧ r.arrivalTime - p.time ≤ p.maxTotal ∧ p.time ≤ r.departureTime := by
  obtain ⟨ec, xc, g, hAdm, harr⟩ := calcWith_admFwd ds hwf sc p hp hmw hmt a e h
  exact ⟨ec, xc, g, hAdm, harr, (calcWith_arrival hwf sc p hmw hmt a e hend h).2 hp,
    (calcWith_times hwf sc p hmw hmt a e h).2.1 hp⟩

theorem calcWith_attained_rev (ds : Dataset) (hwf : WFData ds) (sc : Scenario) (p : Params) (hp : p.forward = false)
    (hmw : 0 ≤ p.minWait) (hmt : 0 ≤ p.maxTransfer) (a e : List NTD) (hend : (e.map (·.stop)).Nodup) {r : Route}
    (h : calculateSingleWith (ds.restrict (ds.connSetOf sc)) (ds.connSetOf sc) p a e = .ok r) :
    ∃ a0 e0 x0, AdmRev (mkCtx (ds.restrict (ds.connSetOf sc)) p (ds.connSetOf sc) a e (-1) p.time) (ds.connSetOf sc).rev a0 e0 x0 ∧
      r.departureTime ≤ e0.dep - e0.effWait p.minWait - a0.time ∧ 0 ≤ r.departureTime ∧ p.time - r.departureTime ≤ p.maxTotal ∧
      r.arrivalTime ≤ p.time := by
  obtain ⟨depT, arrT, bd, j, rfl, hJ, _, hR, h0, hT, _⟩ := calcWith_journey hwf sc p hmw hmt a e h
  obtain ⟨rfl, rfl⟩ := hR hp
  obtain ⟨a0, e0, x0, hAdm, hbd⟩ := journeyOK_admRev allowed_not_disabled hJ hend
  exact ⟨a0, e0, x0, hAdm.mono_set mem_of_filter, hbd, h0, hT, hJ.arrival_le hend⟩

/-- **C04, attained.** The returned route is an admissible journey that leaves at the reported
    departure time or later - with `C04_optimal` (no admissible journey leaves later): exactly then. -/
theorem C04_attained (ds : Dataset) (hwf : WFData ds) (p : Params) (hp : p.forward = false) (hmw : 0 ≤ p.minWait)
    (hmt : 0 ≤ p.maxTransfer) (hend : (ds.egress.map (·.stop)).Nodup) {r : Route} (h : calculateSingle ds p = .ok r) :
    ∃ a0 e0 x0,
      AdmRev (mkCtx (ds.restrict (ds.connSetOf (ds.scenarioOf p))) p (ds.connSetOf (ds.scenarioOf p))
        (routerLookup ds.access p.maxAccess) (routerLookup ds.egress p.maxEgress) (-1) p.time)
        (ds.connSetOf (ds.scenarioOf p)).rev a0 e0 x0 ∧
      r.departureTime ≤ e0.dep - e0.effWait p.minWait - a0.time := by
  obtain ⟨a0, e0, x0, hAdm, hbd, _⟩ :=
    calcWith_attained_rev ds hwf (ds.scenarioOf p) p hp hmw hmt _ _ (routerLookup_nodup _ _ hend) h
  exact ⟨a0, e0, x0, hAdm, hbd⟩

/-- **C03, attained.** The returned route is an admissible journey of the forward kind that reaches
    the place exactly at the reported arrival time - with `C03_optimal` (no admissible journey
    arrives earlier): the reported arrival time is the earliest possible one. -/
theorem C03_attained (ds : Dataset) (hwf : WFData ds) (p : Params) (hp : p.forward = true) (hmw : 0 ≤ p.minWait)
    (hmt : 0 ≤ p.maxTransfer) {r : Route} (h : calculateSingle ds p = .ok r) :
    ∃ e x g,
      AdmFwd (mkCtx (ds.restrict (ds.connSetOf (ds.scenarioOf p))) p (ds.connSetOf (ds.scenarioOf p))
        (routerLookup ds.access p.maxAccess) (routerLookup ds.egress p.maxEgress) p.time (-1))
        (ds.connSetOf (ds.scenarioOf p)).fwd e x g ∧
      x.arr + g.time = r.arrivalTime :=
  calcWith_admFwd ds hwf (ds.scenarioOf p) p hp hmw hmt _ _ h

/-- **C05, attained.** The returned route of a departure-time query is an admissible journey of the
    reverse kind for its own reported arrival time, leaves at the reported departure time or later
    and not before the requested time - with the third clause of `C03_optimal` (no such journey
    leaves later): the reported departure is the latest one that still meets the reported arrival. -/
theorem C05_attained (ds : Dataset) (hwf : WFData ds) (p : Params) (hp : p.forward = true) (hmw : 0 ≤ p.minWait)
    (hmt : 0 ≤ p.maxTransfer) (hend : (ds.egress.map (·.stop)).Nodup) {r : Route} (h : calculateSingle ds p = .ok r) :
    ∃ a0 e0 x0,
      AdmRev { mkCtx (ds.restrict (ds.connSetOf (ds.scenarioOf p))) p (ds.connSetOf (ds.scenarioOf p))
        (routerLookup ds.access p.maxAccess) (routerLookup ds.egress p.maxEgress) p.time (-1) with arrT := r.arrivalTime }
        (ds.connSetOf (ds.scenarioOf p)).rev a0 e0 x0 ∧
      r.departureTime ≤ e0.dep - e0.effWait p.minWait - a0.time ∧ p.time ≤ r.departureTime := by
  obtain ⟨depT, arrT, bd, j, rfl, hJ, hF, _⟩ := calcWith_journey hwf (ds.scenarioOf p) p hmw hmt _ _ h
  obtain ⟨rfl, hbd⟩ := hF hp
  obtain ⟨a0, e0, x0, hAdm, hbd'⟩ := journeyOK_admRev allowed_not_disabled (journeyOK_exact hJ) (routerLookup_nodup _ _ hend)
  exact ⟨a0, e0, x0, hAdm.mono_set mem_of_filter, hbd', hbd⟩

end Tr
