/-
  Property C07, the scan part — NO_SERVICE_FROM_ORIGIN characterised by the data.

  The forward pass counts a connection when it passes every test *on the tables as they are when
  it is met*. While nothing has been counted the tables are the initial ones (only counted
  connections change them), so "nothing was counted" is a statement about the connections and the
  access stops alone: `CaughtF`.
-/
import TrVerif.Proofs.Forward
import TrVerif.Proofs.Fold
import TrVerif.Props.C07
import TrVerif.Proofs.HourIndex
namespace Tr

/-- connection `c` would be counted by the forward pass on the initial tables: it leaves no earlier
    than the requested time plus the shortest access walk, its trip is not excluded by the query,
    it leaves within max_travel_time, and a traveller walking from the place stands at its
    boarding stop no later than its departure minus the minimum waiting time (and, when a
    first-waiting cap is in force and the stop is an access stop, waits no longer than the cap) -/
def CaughtF (cx : Ctx) (c : Conn) : Prop :=
  c.dep ≥ cx.depT + cx.minAccess ∧ cx.disabled c.trip = false ∧ c.dep - cx.depT ≤ cx.p.maxTotal ∧
  (FState.init cx).tent c.depStop ≤ c.dep - c.effWait cx.p.minWait ∧
  (¬ (decide (cx.p.maxFirstWait > 0) && ((cx.nodesAccess c.depStop).any fun a => decide (a.time ≥ 0))) = true ∨
    c.dep - (FState.init cx).tent c.depStop ≤ cx.p.maxFirstWait)

theorem fwdFold_count_mono (cx : Ctx) (single : Bool) (l : List Conn) (s : FState) :
    s.count ≤ (l.foldl (fwdStep cx single) s).count :=
  foldl_inv (fun t : FState => s.count ≤ t.count) (fun t c _ ht => Nat.le_trans ht (fwdStep_count_mono cx single t c)) (Nat.le_refl _)

theorem fwdFold_stopped (cx : Ctx) (single : Bool) (l : List Conn) {s : FState} (h : s.stop = true) :
    l.foldl (fwdStep cx single) s = s :=
  foldl_inv (· = s) (fun t c _ ht => by rw [ht]; unfold fwdStep; rw [if_pos h]) rfl

theorem fwdStep_init (cx : Ctx) (single : Bool) (c : Conn) :
    (CaughtF cx c ∧ 1 ≤ (fwdStep cx single (FState.init cx) c).count) ∨
    (c.dep - cx.depT > cx.p.maxTotal ∧ fwdStep cx single (FState.init cx) c = { FState.init cx with stop := true }) ∨
    (¬ CaughtF cx c ∧ fwdStep cx single (FState.init cx) c = FState.init cx) := by
  have hen : ((FState.init cx).steps c.depStop).enter = none := foldl_upd_enter cx.accessFoot _ (fun _ => rfl) c.depStop
  unfold fwdStep
  rw [if_neg (by simp [FState.init])]
  by_cases h1 : c.dep ≥ cx.depT + cx.minAccess
  · rw [if_neg (fun h => h h1)]
    by_cases h2 : cx.disabled c.trip = true
    · rw [if_pos h2]
      exact Or.inr (Or.inr ⟨fun h => absurd (h.2.1 ▸ h2) Bool.false_ne_true, rfl⟩)
    · rw [if_neg h2]
      simp only
      by_cases h3 : c.dep - cx.depT > cx.p.maxTotal
      · rw [if_pos (Or.inr h3)]
        exact Or.inr (Or.inl ⟨h3, rfl⟩)
      · rw [if_neg (by rintro (⟨_, hr, _⟩ | h); cases hr; exact h3 h)]
        -- on the initial tables no trip is entered and no stop has a boarding, so the boarding test is the rest of `CaughtF`
        rw [hen, show (FState.init cx).enterC c.trip = none from rfl]
        simp only [Option.isSome_none, Bool.false_eq_true, false_or, Option.isNone_none, Bool.and_true]
        by_cases h4 : (FState.init cx).tent c.depStop ≤ c.dep - c.effWait cx.p.minWait ∧
            (¬ (decide (cx.p.maxFirstWait > 0) && ((cx.nodesAccess c.depStop).any fun a => decide (a.time ≥ 0))) = true ∨
              c.dep - (FState.init cx).tent c.depStop ≤ cx.p.maxFirstWait)
        · left
          refine ⟨⟨h1, by simpa using h2, by omega, h4⟩, ?_⟩
          rw [if_neg (fun h => h h4)]
          simp only
          omega
        · right; right
          rw [if_pos h4]
          exact ⟨fun h => h4 h.2.2.2, rfl⟩
  · rw [if_pos h1]
    exact Or.inr (Or.inr ⟨fun h => h1 h.1, rfl⟩)

theorem fwdFold_count_zero (cx : Ctx) (single : Bool) {l : List Conn} (hs : SortedFwd l) :
    (l.foldl (fwdStep cx single) (FState.init cx)).count = 0 ↔ ∀ c ∈ l, ¬ CaughtF cx c := by
  induction l with
  | nil => simp [FState.init]
  | cons c rest ih =>
    obtain ⟨hc, hrest⟩ := List.pairwise_cons.mp hs
    rw [List.foldl_cons, List.forall_mem_cons]
    rcases fwdStep_init cx single c with ⟨h, hcount⟩ | ⟨hlate, heq⟩ | ⟨h, heq⟩
    · have := fwdFold_count_mono cx single rest (fwdStep cx single (FState.init cx) c)
      exact ⟨fun h0 => by omega, fun hall => absurd h hall.1⟩
    · -- the rest of the list leaves no earlier, hence too late as well
      rw [heq, fwdFold_stopped cx single rest rfl]
      refine ⟨fun _ => ⟨fun h => by have := h.2.2.1; omega, fun d hd h => ?_⟩, fun _ => rfl⟩
      have hord := hc d hd
      simp only [fwdLt, Bool.or_eq_false_iff, decide_eq_false_iff_not] at hord
      have := h.2.2.1
      omega
    · rw [heq, ih hrest]
      exact ⟨fun hall => ⟨h, hall⟩, fun hall => hall.2⟩

theorem fwdScan_count_zero (cx : Ctx) (single : Bool) (hs : SortedFwd cx.cs.fwd) (start : Nat) :
    (fwdScan cx single start).count = 0 ↔ ∀ c ∈ cx.cs.fwd.drop start, ¬ CaughtF cx c :=
  fwdFold_count_zero cx single (List.Pairwise.sublist (List.drop_sublist _ _) hs)

theorem fwdStep_early (cx : Ctx) (single : Bool) (s : FState) (c : Conn) (h : c.dep < cx.depT + cx.minAccess) :
    fwdStep cx single s c = s := by
  unfold fwdStep
  by_cases h0 : s.stop = true
  · rw [if_pos h0]
  · rw [if_neg h0, if_pos (by omega)]

theorem fwdScan_from_start (cx : Ctx) (single : Bool) (start : Nat)
    (h : ∀ c ∈ cx.cs.fwd.take start, c.dep < cx.depT + cx.minAccess) :
    fwdScan cx single start = fwdScan cx single 0 := by
  unfold fwdScan
  rw [List.drop_zero]
  conv => rhs; rw [← List.take_append_drop start cx.cs.fwd, List.foldl_append]
  rw [foldl_inv (l := cx.cs.fwd.take start) (· = FState.init cx)
    (fun s c hc hs => by rw [hs]; exact fwdStep_early cx single _ c (h c hc)) rfl]

/-- **C07 (NO_SERVICE_FROM_ORIGIN, route endpoint).** For a departure-time query whose both walking
    look-ups offer a stop: the answer is NO_SERVICE_FROM_ORIGIN exactly when no connection of the
    scanned range (from the position the hour index gives) can be caught from an access stop. -/
theorem C07_no_service_from_origin (ds : Dataset) (cs : ConnSet) (p : Params) (acc egr : List NTD)
    (hp : p.forward = true) (hs : SortedFwd cs.fwd) (ha : acc ≠ []) (he : egr ≠ []) (start : Nat)
    (hst : lookupPos (fwdLookup cs.fwd cs.fwdIdx (hourOf p.time)) = some start) :
    calculateSingleWith ds cs p acc egr = .noRouting .noServiceFromOrigin ↔
      ∀ c ∈ cs.fwd.drop start, ¬ CaughtF (mkCtx ds p cs acc egr p.time (-1)) c :=
  (calculateSingleWith_fromOrigin_iff ha he hp hst).trans (fwdScan_count_zero _ true hs start)

/-- **C07 (NO_SERVICE_AT_PLACE, departure-time accessibility).** The same for the accessibility calculation, whose
    `noServiceFromOrigin` is rendered NO_SERVICE_AT_PLACE. -/
theorem C07_no_service_at_place_forward (ds : Dataset) (cs : ConnSet) (p : Params)
    (hp : p.forward = true) (hs : SortedFwd cs.fwd) (ha : routerLookup ds.access p.maxAccess ≠ []) (start : Nat)
    (hst : lookupPos (fwdLookup cs.fwd cs.fwdIdx (hourOf p.time)) = some start) :
    calculateAllNodesCS ds cs p = .noRouting .noServiceFromOrigin ↔
      ∀ c ∈ cs.fwd.drop start, ¬ CaughtF (mkCtx (ds.restrict cs) p cs (routerLookup ds.access p.maxAccess) [] p.time (-1)) c :=
  (calculateAllNodesCS_fromOrigin_iff hp ha hst).trans (fwdScan_count_zero _ false hs start)

/-- the hour index is transparent for a forward scan: inside the clock range, what lies before the start position
    leaves before the requested time, and the first test of the step discards it -/
theorem fwdScan_index_free (cx : Ctx) (single : Bool) (hidx : cx.cs.fwdIdx = fwdIndex cx.cs.fwd) (h0 : 0 ≤ cx.depT)
    (ht : cx.depT < (HOUR_END : Int) * 3600) (hma : 0 ≤ cx.minAccess) {start : Nat}
    (hst : lookupPos (fwdLookup cx.cs.fwd cx.cs.fwdIdx (hourOf cx.depT)) = some start) :
    fwdScan cx single start = fwdScan cx single 0 :=
  fwdScan_from_start cx single start fun c hc => by
    have := before_start_early cx.cs hidx cx.depT h0 start hst ht c hc
    omega

theorem fwdScan_count_zero_all (cx : Ctx) (single : Bool) (hs : SortedFwd cx.cs.fwd) (hidx : cx.cs.fwdIdx = fwdIndex cx.cs.fwd)
    (h0 : 0 ≤ cx.depT) (ht : cx.depT < (HOUR_END : Int) * 3600) (hma : 0 ≤ cx.minAccess) {start : Nat}
    (hst : lookupPos (fwdLookup cx.cs.fwd cx.cs.fwdIdx (hourOf cx.depT)) = some start) :
    (fwdScan cx single start).count = 0 ↔ ∀ c ∈ cx.cs.fwd, ¬ CaughtF cx c := by
  rw [fwdScan_index_free cx single hidx h0 ht hma hst, fwdScan_count_zero cx single hs 0, List.drop_zero]

/-- **C07 (NO_SERVICE_FROM_ORIGIN by the data).** For a departure-time query inside the clock range
    [0, 32 h), with non-negative access walks and both look-ups offering a stop: the answer is
    NO_SERVICE_FROM_ORIGIN exactly when no connection of the whole connection set can be caught. -/
theorem C07_no_service_from_origin_data (ds : Dataset) (cs : ConnSet) (p : Params) (acc egr : List NTD)
    (hp : p.forward = true) (hs : SortedFwd cs.fwd) (hidx : cs.fwdIdx = fwdIndex cs.fwd)
    (ha : acc ≠ []) (he : egr ≠ []) (hacc : ∀ a ∈ acc, 0 ≤ a.time)
    (h0 : 0 ≤ p.time) (ht : p.time < (HOUR_END : Int) * 3600) (start : Nat)
    (hst : lookupPos (fwdLookup cs.fwd cs.fwdIdx (hourOf p.time)) = some start) :
    calculateSingleWith ds cs p acc egr = .noRouting .noServiceFromOrigin ↔
      ∀ c ∈ cs.fwd, ¬ CaughtF (mkCtx ds p cs acc egr p.time (-1)) c :=
  (calculateSingleWith_fromOrigin_iff ha he hp hst).trans
    (fwdScan_count_zero_all (mkCtx ds p cs acc egr p.time (-1)) true hs hidx h0 ht (minTime_nonneg acc hacc) hst)

end Tr
