/-
  Property C12 where an answer is characterised by a specification: the optimal times of a route answer on the
  domains of C03 / C04 / C05 and the maps of the accessibility calculations on the domains of C08 / C09.  Moving
  every scheduled time of the data (`shiftDs`) and the requested time (`shiftP`) by the same offset moves exactly
  those values by the offset and keeps the status.  The argument does not look at the scans at all: the
  inductive specifications (`Reach`, `RReach`, `AdmFwd`, `AdmRev`) are translation invariant, and the answers are
  optimal among and attained by admissible journeys on both sides.

  Hypotheses: the domain hypotheses (`C03Dom`, `C04Dom`, `C08Dom`, `C09Dom`) for BOTH datasets - the property
  quantifies over offsets that keep all clock values in range on both sides - and `TripsAligned`.
-/
import TrVerif.Props.NoExc
import TrVerif.Props.C07
namespace Tr

def shiftTrip (k : Int) (tr : TripRec) : TripRec := { tr with arr := tr.arr.map (· + k), dep := tr.dep.map (· + k) }
def shiftDs (k : Int) (ds : Dataset) : Dataset := { ds with trips := ds.trips.map (shiftTrip k) }
def shiftConn (k : Int) (c : Conn) : Conn := { c with dep := c.dep + k, arr := c.arr + k }
def shiftP (k : Int) (p : Params) : Params := { p with time := p.time + k }

def TripsAligned (ds : Dataset) : Prop := ∀ tr ∈ ds.trips, tr.dep.length = tr.arr.length

theorem getD_map_add (l : List Int) (k : Int) (i : Nat) (h : i < l.length) : (l.map (· + k)).getD i 0 = l.getD i 0 + k := by
  simp [List.getD, List.getElem?_map, List.getElem?_eq_getElem h]

theorem tripConnsAux_shift (k : Int) (tr : TripRec) (stops : List Nat) (mw : Int) (hal : tr.dep.length = tr.arr.length) :
    ∀ (n i : Nat), i + n ≤ tr.arr.length - 1 →
      tripConnsAux (shiftTrip k tr) stops mw i n = (tripConnsAux tr stops mw i n).map (shiftConn k) := by
  intro n
  induction n with
  | zero => intro i _; rfl
  | succ n ih =>
    intro i hi
    simp only [tripConnsAux, List.map_cons]
    rw [ih (i + 1) (by omega)]
    congr 1
    simp only [shiftTrip, shiftConn]
    rw [getD_map_add _ _ _ (by omega), getD_map_add _ _ _ (by omega)]

theorem tripConns_shift (k : Int) (ds : Dataset) (tr : TripRec) (hal : tr.dep.length = tr.arr.length) :
    (shiftDs k ds).tripConns (shiftTrip k tr) = (ds.tripConns tr).map (shiftConn k) := by
  unfold Dataset.tripConns
  simp only
  have hlen : (shiftTrip k tr).arr.length = tr.arr.length := by simp [shiftTrip]
  rw [hlen]
  exact tripConnsAux_shift k tr _ _ hal _ 0 (by omega)

theorem conns_shift (k : Int) (ds : Dataset) (hal : TripsAligned ds) :
    (shiftDs k ds).conns = ds.conns.map (shiftConn k) := by
  unfold Dataset.conns
  show (ds.trips.map (shiftTrip k)).flatMap (shiftDs k ds).tripConns = _
  rw [List.flatMap_map, List.map_flatMap, List.flatMap_def, List.flatMap_def]
  exact congrArg _ (List.map_congr_left fun tr htr => tripConns_shift k ds tr (hal tr htr))

theorem tripRec_shift (k : Int) (ds : Dataset) (t : Nat) :
    (shiftDs k ds).tripRec? t = (ds.tripRec? t).map (shiftTrip k) := by
  unfold Dataset.tripRec? shiftDs
  simp only
  rw [List.find?_map]
  rfl

theorem pathOfTrip_shift (k : Int) (ds : Dataset) (t : Nat) : (shiftDs k ds).pathOfTrip t = ds.pathOfTrip t := by
  unfold Dataset.pathOfTrip
  rw [tripRec_shift]
  cases ds.tripRec? t <;> rfl

theorem lineOfTrip_shift (k : Int) (ds : Dataset) (t : Nat) : (shiftDs k ds).lineOfTrip t = ds.lineOfTrip t := by
  unfold Dataset.lineOfTrip; rw [pathOfTrip_shift]

theorem serviceOfTrip_shift (k : Int) (ds : Dataset) (t : Nat) : (shiftDs k ds).serviceOfTrip t = ds.serviceOfTrip t := by
  unfold Dataset.serviceOfTrip
  rw [tripRec_shift]
  cases ds.tripRec? t <;> rfl

theorem tripEnabled_shift (k : Int) (ds : Dataset) (sc : Scenario) (t : Nat) :
    (shiftDs k ds).tripEnabled sc t = ds.tripEnabled sc t := by
  unfold Dataset.tripEnabled Dataset.agencyOfTrip Dataset.modeOfTrip
  rw [serviceOfTrip_shift, lineOfTrip_shift]
  rfl

theorem forall_conns_shift {k : Int} {ds : Dataset} (hal : TripsAligned ds) {P : Conn → Prop} :
    (∀ c ∈ (shiftDs k ds).conns, P c) ↔ ∀ c ∈ ds.conns, P (shiftConn k c) := by
  rw [conns_shift k ds hal]; exact List.forall_mem_map

theorem forall_fwd_shift {k : Int} {ds : Dataset} (hal : TripsAligned ds) {sc : Scenario} {P : Conn → Prop} :
    (∀ c' ∈ ((shiftDs k ds).connSetOf sc).fwd, P c') ↔ ∀ c ∈ (ds.connSetOf sc).fwd, P (shiftConn k c) := by
  simp only [mem_connSetOf_fwd, and_imp, forall_conns_shift hal, tripEnabled_shift]
  exact Iff.rfl

theorem forall_rev_shift {k : Int} {ds : Dataset} (hal : TripsAligned ds) {sc : Scenario} {P : Conn → Prop} :
    (∀ c' ∈ ((shiftDs k ds).connSetOf sc).rev, P c') ↔ ∀ c ∈ (ds.connSetOf sc).rev, P (shiftConn k c) := by
  simp only [mem_connSetOf_rev, and_imp, forall_conns_shift hal, tripEnabled_shift]
  exact Iff.rfl

theorem mem_fwd_shift (k : Int) (ds : Dataset) (hal : TripsAligned ds) (sc : Scenario) (c : Conn)
    (h : c ∈ (ds.connSetOf sc).fwd) : shiftConn k c ∈ ((shiftDs k ds).connSetOf sc).fwd :=
  (forall_fwd_shift hal (P := (· ∈ ((shiftDs k ds).connSetOf sc).fwd))).mp (fun _ h => h) c h

theorem mem_rev_shift (k : Int) (ds : Dataset) (hal : TripsAligned ds) (sc : Scenario) (c : Conn)
    (h : c ∈ (ds.connSetOf sc).rev) : shiftConn k c ∈ ((shiftDs k ds).connSetOf sc).rev :=
  (forall_rev_shift hal (P := (· ∈ ((shiftDs k ds).connSetOf sc).rev))).mp (fun _ h => h) c h

/-- two contexts that agree on everything but the clock -/
structure CtxSame (cx cx' : Ctx) : Prop where
  foot : ∀ z, cx.ds.footOf z = cx'.ds.footOf z
  rfoot : ∀ z, cx.ds.rfootOf z = cx'.ds.rfootOf z
  mw : cx.p.minWait = cx'.p.minWait
  mt : cx.p.maxTransfer = cx'.p.maxTransfer
  acc : cx.accessFoot = cx'.accessFoot
  egr : cx.egressFoot = cx'.egressFoot
  dis : ∀ t, cx.disabled t = cx'.disabled t

theorem CtxSame.symm {cx cx' : Ctx} (h : CtxSame cx cx') : CtxSame cx' cx :=
  ⟨fun z => (h.foot z).symm, fun z => (h.rfoot z).symm, h.mw.symm, h.mt.symm, h.acc.symm, h.egr.symm, fun t => (h.dis t).symm⟩

theorem nodesAccess_same {cx cx' : Ctx} (h : CtxSame cx cx') (z : Nat) : cx'.nodesAccess z = cx.nodesAccess z := by
  unfold Ctx.nodesAccess; rw [h.acc]
theorem nodesEgress_same {cx cx' : Ctx} (h : CtxSame cx cx') (z : Nat) : cx'.nodesEgress z = cx.nodesEgress z := by
  unfold Ctx.nodesEgress; rw [h.egr]
theorem minAccess_same {cx cx' : Ctx} (h : CtxSame cx cx') : cx'.minAccess = cx.minAccess := by
  unfold Ctx.minAccess; rw [h.acc]
theorem maxAccess_same {cx cx' : Ctx} (h : CtxSame cx cx') : cx'.maxAccess = cx.maxAccess := by
  unfold Ctx.maxAccess; rw [h.acc]
theorem minEgress_same {cx cx' : Ctx} (h : CtxSame cx cx') : cx'.minEgress = cx.minEgress := by
  unfold Ctx.minEgress; rw [h.egr]
theorem maxEgress_same {cx cx' : Ctx} (h : CtxSame cx cx') : cx'.maxEgress = cx.maxEgress := by
  unfold Ctx.maxEgress; rw [h.egr]

theorem Reach.shift {cx cx' : Ctx} (k : Int) (h : CtxSame cx cx') (hd : cx'.depT = cx.depT + k) {C C' : List Conn}
    (hC : ∀ c ∈ C, shiftConn k c ∈ C') {y : Nat} {t : Int} (hr : Reach cx C y t) : Reach cx' C' y (t + k) := by
  induction hr with
  | access a ha =>
    have : cx.depT + a.time + k = cx'.depT + a.time := by omega
    rw [this]
    exact Reach.access a (h.acc ▸ ha)
  | ride y t e x f _ he hx h1 h2 h3 h4 h5 h6 h7 h8 h9 ih =>
    have : x.arr + f.time + k = (shiftConn k x).arr + f.time := by simp [shiftConn]; omega
    rw [this]
    exact Reach.ride y (t + k) (shiftConn k e) (shiftConn k x) f ih (hC e he) (hC x hx) h1
      (by show t + k + e.effWait cx'.p.minWait ≤ e.dep + k; rw [← h.mw]; omega) h3 h4 h5 h6
      (by show cx'.disabled e.trip = false; rw [← h.dis]; exact h7)
      (by show f ∈ cx'.ds.footOf x.arrStop; rw [← h.foot]; exact h8) (by rw [← h.mt]; exact h9)

theorem RReach.shift {cx cx' : Ctx} (k : Int) (h : CtxSame cx cx') (ha : cx'.arrT = cx.arrT + k) {C C' : List Conn}
    (hC : ∀ c ∈ C, shiftConn k c ∈ C') {y : Nat} {t : Int} (hr : RReach cx C y t) : RReach cx' C' y (t + k) := by
  induction hr with
  | egress g hg =>
    have : cx.arrT - g.time + k = cx'.arrT - g.time := by omega
    rw [this]
    exact RReach.egress g (h.egr ▸ hg)
  | ride z t e x f _ he hx h1 h2 h3 h4 h5 h6 h7 h8 h9 ih =>
    have : e.dep - f.time - e.effWait cx.p.minWait + k
        = (shiftConn k e).dep - f.time - (shiftConn k e).effWait cx'.p.minWait := by
      rw [← h.mw]; simp [shiftConn, Conn.effWait]; omega
    rw [this]
    exact RReach.ride z (t + k) (shiftConn k e) (shiftConn k x) f ih (hC e he) (hC x hx) h1
      (by show x.arr + k ≤ t + k; omega) h3 h4 h5 h6
      (by show cx'.disabled e.trip = false; rw [← h.dis]; exact h7)
      (by show f ∈ cx'.ds.rfootOf e.depStop; rw [← h.rfoot]; exact h8) (by rw [← h.mt]; exact h9)

theorem BoardP.shift {cx cx' : Ctx} (k : Int) (h : CtxSame cx cx') (hd : cx'.depT = cx.depT + k) {C C' : List Conn}
    (hC : ∀ c ∈ C, shiftConn k c ∈ C') {e : Conn} (hB : BoardP cx C e) : BoardP cx' C' (shiftConn k e) := by
  obtain ⟨hcb, hdis, t, hr, ht⟩ := hB
  refine ⟨hcb, by show cx'.disabled e.trip = false; rw [← h.dis]; exact hdis, t + k, hr.shift k h hd hC, ?_⟩
  show t + k + e.effWait cx'.p.minWait ≤ e.dep + k
  rw [← h.mw]; omega

theorem UnboardP.shift {cx cx' : Ctx} (k : Int) (h : CtxSame cx cx') (ha : cx'.arrT = cx.arrT + k) {C C' : List Conn}
    (hC : ∀ c ∈ C, shiftConn k c ∈ C') {x : Conn} (hU : UnboardP cx C x) : UnboardP cx' C' (shiftConn k x) := by
  obtain ⟨hcu, hdis, t, hr, ht⟩ := hU
  exact ⟨hcu, by show cx'.disabled x.trip = false; rw [← h.dis]; exact hdis, t + k, hr.shift k h ha hC,
    by show x.arr + k ≤ t + k; omega⟩

theorem AdmFwd.shift {cx cx' : Ctx} (k : Int) (h : CtxSame cx cx') (hd : cx'.depT = cx.depT + k) {C C' : List Conn}
    (hC : ∀ c ∈ C, shiftConn k c ∈ C') {e x : Conn} {g : NTD} (hA : AdmFwd cx C e x g) :
    AdmFwd cx' C' (shiftConn k e) (shiftConn k x) g :=
  ⟨hA.board.shift k h hd hC, hC e hA.he, hC x hA.hx, hA.trip, hA.seq, hA.unboard, h.egr ▸ hA.egr, hA.stop⟩

theorem AdmRev.shift {cx cx' : Ctx} (k : Int) (h : CtxSame cx cx') (ha : cx'.arrT = cx.arrT + k) {C C' : List Conn}
    (hC : ∀ c ∈ C, shiftConn k c ∈ C') {a0 : NTD} {e0 x0 : Conn} (hA : AdmRev cx C a0 e0 x0) :
    AdmRev cx' C' a0 (shiftConn k e0) (shiftConn k x0) :=
  ⟨h.acc ▸ hA.acc, hA.stop, hC e0 hA.he, hC x0 hA.hx, hA.trip, hA.seq, hA.board, hA.unboard.shift k h ha hC⟩


theorem shiftConn_neg (k : Int) (c : Conn) : shiftConn (-k) (shiftConn k c) = c := by
  cases c
  simp only [shiftConn, Int.add_neg_cancel_right]

theorem shiftTrip_neg (k : Int) (tr : TripRec) : shiftTrip (-k) (shiftTrip k tr) = tr := by
  cases tr
  simp only [shiftTrip, List.map_map, Function.comp_def, Int.add_neg_cancel_right, List.map_id']

theorem shiftDs_neg (k : Int) (ds : Dataset) : shiftDs (-k) (shiftDs k ds) = ds := by
  cases ds
  simp only [shiftDs, List.map_map, Function.comp_def, shiftTrip_neg, List.map_id']

theorem shiftP_neg (k : Int) (p : Params) : shiftP (-k) (shiftP k p) = p := by
  cases p
  simp only [shiftP, Int.add_neg_cancel_right]

theorem aligned_shift (k : Int) (ds : Dataset) (h : TripsAligned ds) : TripsAligned (shiftDs k ds) := by
  intro tr htr
  obtain ⟨t0, ht0, rfl⟩ := List.mem_map.mp htr
  simp [shiftTrip, h t0 ht0]

theorem trip_ids_shift (k : Int) (ds : Dataset) : (shiftDs k ds).trips.map (·.id) = ds.trips.map (·.id) := by
  simp only [shiftDs, List.map_map]
  exact List.map_congr_left fun _ _ => rfl

theorem connSet_trips_shift (k : Int) (ds : Dataset) (sc : Scenario) :
    ((shiftDs k ds).connSetOf sc).trips = (ds.connSetOf sc).trips := by
  simp only [Dataset.connSetOf, mkConnSet, trip_ids_shift]
  exact List.filter_congr fun t _ => tripEnabled_shift k ds sc t

theorem restrict_shift (k : Int) (ds : Dataset) (sc : Scenario) :
    (shiftDs k ds).restrict ((shiftDs k ds).connSetOf sc) = shiftDs k (ds.restrict (ds.connSetOf sc)) := by
  have h := connSet_trips_shift k ds sc
  unfold Dataset.restrict
  rw [h]
  simp only [shiftDs, List.filter_map]
  congr 1

theorem ctxSame_shiftDs (k : Int) (ds : Dataset) (p : Params) (cs cs' : ConnSet) (a e : List NTD) (dT aT dT' aT' : Int) :
    CtxSame (mkCtx ds p cs a e dT aT) (mkCtx (shiftDs k ds) (shiftP k p) cs' a e dT' aT') := by
  refine ⟨fun z => rfl, fun z => rfl, rfl, rfl, rfl, rfl, fun t => ?_⟩
  show queryDisabled ds p t = queryDisabled (shiftDs k ds) (shiftP k p) t
  unfold queryDisabled
  rw [lineOfTrip_shift]
  rfl

theorem ctxSame_shift (k : Int) (ds : Dataset) (p : Params) (a e : List NTD) (dT aT dT' aT' : Int) :
    CtxSame (qCtx ds p a e dT aT) (qCtx (shiftDs k ds) (shiftP k p) a e dT' aT') := by
  show CtxSame _ (mkCtx ((shiftDs k ds).restrict ((shiftDs k ds).connSetOf (ds.scenarioOf p))) _ _ a e dT' aT')
  rw [restrict_shift]
  exact ctxSame_shiftDs k _ p _ _ a e dT aT dT' aT'

theorem effWait_shift (k : Int) (c : Conn) (d : Int) : (shiftConn k c).effWait d = c.effWait d := rfl

/-- the domain of C03 / C05 (see `C03_answer`) -/
structure C03Dom (ds : Dataset) (p : Params) : Prop where
  wf : WFData ds
  fwd : p.forward = true
  mw : 0 ≤ p.minWait
  mt : 0 ≤ p.maxTransfer
  pos : PosHops ds
  self : SelfFootArr ds
  tb : TimesBounded ds
  ab : ArrBounded ds
  r1 : StopsInRange ds
  r2 : DepStopsInRange ds
  cap : p.maxFirstWait < 0
  acc : ∀ a ∈ ds.access, 0 ≤ a.time
  accNd : (ds.access.map (·.stop)).Nodup
  egr : ∀ g ∈ ds.egress, 0 ≤ g.time
  egrNd : (ds.egress.map (·.stop)).Nodup
  t0 : 0 ≤ p.time
  t32 : p.time < (HOUR_END : Int) * 3600

/-- Stated for any `ds'`, `p'` equal to the shifted data and request, so that it also applies backwards: `ds` is
    `shiftDs k ds` shifted by `-k` (`shiftDs_neg`). -/
theorem shift_departure_le {ds ds' : Dataset} {p p' : Params} {k : Int} (hds : shiftDs k ds = ds') (hp : shiftP k p = p')
    (D : C03Dom ds p) (D' : C03Dom ds' p') (hal : TripsAligned ds) {r : Route} (h : calculateSingle ds p = .ok r) :
    ∃ r', calculateSingle ds' p' = .ok r' ∧ r'.arrivalTime ≤ r.arrivalTime + k ∧
      (r'.arrivalTime = r.arrivalTime + k → r.departureTime + k ≤ r'.departureTime) := by
  subst hds hp
  obtain ⟨e, x, g, hAdm, harr⟩ := C03_attained ds D.wf p D.fwd D.mw D.mt h
  have hspan := (C02_arrival ds D.wf p D.mw D.mt D.egrNd h).2 D.fwd
  have hAdm' := hAdm.shift k (ctxSame_shift k ds p _ _ p.time (-1) (p.time + k) (-1)) rfl (mem_fwd_shift k ds hal _)
  obtain ⟨r', hr', hle, hdep⟩ := C03_answer (shiftDs k ds) D'.wf (shiftP k p) D'.fwd D'.mw D'.mt D'.pos D'.self D'.tb D'.ab
    D'.r1 D'.r2 D'.cap D'.acc D'.accNd D'.egr D'.egrNd D'.t0 D'.t32 hAdm'
    (by show x.arr + k + g.time - (p.time + k) ≤ p.maxTotal; omega)
  have hle' : r'.arrivalTime ≤ x.arr + k + g.time := hle
  refine ⟨r', hr', by omega, ?_⟩
  intro heq
  obtain ⟨a0, e0, x0, hRev, hd1, hd2⟩ := C05_attained ds D.wf p D.fwd D.mw D.mt D.egrNd h
  have hRev' := hRev.shift k (ctxSame_shift k ds p _ _ p.time r.arrivalTime (p.time + k) r'.arrivalTime) heq
    (mem_rev_shift k ds hal _)
  have h2 : e0.dep + k - e0.effWait p.minWait - a0.time ≤ r'.departureTime := hdep a0 (shiftConn k e0) (shiftConn k x0) hRev'
    (by show p.time + k ≤ e0.dep + k - e0.effWait p.minWait - a0.time; omega)
  omega

/-- **C12 for departure-time route queries, on the domain of C03 / C05.** Moving every scheduled
    time and the requested time by `k` keeps the status - a route is returned on one side exactly
    when one is returned on the other - and moves the reported arrival AND the reported departure
    time by exactly `k`. -/
theorem C12_departure_query (ds : Dataset) (p : Params) (k : Int) (D : C03Dom ds p) (D' : C03Dom (shiftDs k ds) (shiftP k p))
    (hal : TripsAligned ds) :
    (∀ r, calculateSingle ds p = .ok r → ∃ r', calculateSingle (shiftDs k ds) (shiftP k p) = .ok r' ∧
      r'.arrivalTime = r.arrivalTime + k ∧ r'.departureTime = r.departureTime + k) ∧
    (∀ r', calculateSingle (shiftDs k ds) (shiftP k p) = .ok r' → ∃ r, calculateSingle ds p = .ok r) := by
  have hback := fun r' => shift_departure_le (r := r') (shiftDs_neg k ds) (shiftP_neg k p) D' D (aligned_shift k ds hal)
  constructor
  · intro r hr
    obtain ⟨r', hr', h1, h2⟩ := shift_departure_le rfl rfl D D' hal hr
    obtain ⟨r2, hr2, h3, h4⟩ := hback r' hr'
    cases hr.symm.trans hr2
    have harr : r'.arrivalTime = r.arrivalTime + k := by omega
    have hd1 := h2 harr
    have hd2 := h4 (by omega)
    exact ⟨r', hr', harr, by omega⟩
  · intro r' hr'
    obtain ⟨r, hr, _⟩ := hback r' hr'
    exact ⟨r, hr⟩


/-- the domain of C04 (see `C04_answer`) -/
structure C04Dom (ds : Dataset) (p : Params) : Prop where
  wf : WFData ds
  rev : p.forward = false
  mw : 0 ≤ p.minWait
  mt : 0 ≤ p.maxTransfer
  pos : PosHops ds
  tb : TimesBounded ds
  r1 : StopsInRange ds
  r2 : DepStopsInRange ds
  egr : ∀ g ∈ ds.egress, 0 ≤ g.time
  egrNd : (ds.egress.map (·.stop)).Nodup
  acc : ∀ a ∈ ds.access, 0 ≤ a.time
  accNd : (ds.access.map (·.stop)).Nodup
  t0 : 0 ≤ p.time

theorem shift_arrival_ge {ds ds' : Dataset} {p p' : Params} {k : Int} (hds : shiftDs k ds = ds') (hp : shiftP k p = p')
    (D : C04Dom ds p) (D' : C04Dom ds' p') (hal : TripsAligned ds) {r : Route} (h : calculateSingle ds p = .ok r)
    (h0 : 0 ≤ r.departureTime + k) :
    ∃ r', calculateSingle ds' p' = .ok r' ∧ r.departureTime + k ≤ r'.departureTime := by
  subst hds hp
  obtain ⟨a0, e0, x0, hAdm, hdep⟩ := C04_attained ds D.wf p D.rev D.mw D.mt D.egrNd h
  have hspan := (C02_times ds D.wf p D.mw D.mt h).2.2 D.rev
  have hAdm' := hAdm.shift k (ctxSame_shift k ds p _ _ (-1) p.time (-1) (p.time + k)) rfl (mem_rev_shift k ds hal _)
  obtain ⟨r', hr', hle⟩ := C04_answer (shiftDs k ds) D'.wf (shiftP k p) D'.rev D'.mw D'.mt D'.pos D'.tb D'.r1 D'.r2
    D'.egr D'.egrNd D'.acc D'.accNd D'.t0 hAdm'
    (by show 0 ≤ e0.dep + k - e0.effWait p.minWait - a0.time; omega)
    (by show p.time + k - (e0.dep + k - e0.effWait p.minWait - a0.time) ≤ p.maxTotal; omega)
  have hle' : e0.dep + k - e0.effWait p.minWait - a0.time ≤ r'.departureTime := hle
  exact ⟨r', hr', by omega⟩

/-- **C12 for arrival-time route queries, on the domain of C04.** When the answer moved to the
    other side still leaves at or after 0:00 (the property's "both answers stay in range"), moving
    every scheduled time and the requested time by `k` keeps the status and moves the reported
    departure time by exactly `k`. -/
theorem C12_arrival_query (ds : Dataset) (p : Params) (k : Int) (D : C04Dom ds p) (D' : C04Dom (shiftDs k ds) (shiftP k p))
    (hal : TripsAligned ds) :
    (∀ r, calculateSingle ds p = .ok r → 0 ≤ r.departureTime + k →
      ∃ r', calculateSingle (shiftDs k ds) (shiftP k p) = .ok r' ∧ r'.departureTime = r.departureTime + k) ∧
    (∀ r', calculateSingle (shiftDs k ds) (shiftP k p) = .ok r' → 0 ≤ r'.departureTime + -k →
      ∃ r, calculateSingle ds p = .ok r ∧ r'.departureTime = r.departureTime + k) := by
  have hfwd := fun r => shift_arrival_ge (r := r) (k := k) rfl rfl D D' hal
  have hback := fun r' => shift_arrival_ge (r := r') (shiftDs_neg k ds) (shiftP_neg k p) D' D (aligned_shift k ds hal)
  constructor
  · intro r hr h0
    obtain ⟨r', hr', h1⟩ := hfwd r hr h0
    have hr0 := (C02_times ds D.wf p D.mw D.mt hr).1
    obtain ⟨r2, hr2, h3⟩ := hback r' hr' (by omega)
    cases hr.symm.trans hr2
    exact ⟨r', hr', by omega⟩
  · intro r' hr' h0
    obtain ⟨r, hr, h1⟩ := hback r' hr' h0
    have hr0 := (C02_times (shiftDs k ds) D'.wf (shiftP k p) D'.mw D'.mt hr').1
    obtain ⟨r2, hr2, h2⟩ := hfwd r hr (by omega)
    cases hr'.symm.trans hr2
    exact ⟨r, hr, by omega⟩


theorem getD_map_add_le {l l' : List Int} (k : Int) {i j : Nat} (hi : i < l.length) (hj : j < l'.length)
    (h : l.getD i 0 ≤ l'.getD j 0) : (l.map (· + k)).getD i 0 ≤ (l'.map (· + k)).getD j 0 := by
  rw [getD_map_add _ _ _ hi, getD_map_add _ _ _ hj]; omega

theorem wfData_shift (k : Int) {ds : Dataset} (h : WFData ds) (hal : TripsAligned ds) : WFData (shiftDs k ds) := by
  refine ⟨⟨by rw [trip_ids_shift]; exact h.nodup, ?_⟩, ?_, ?_, h.footNonneg, (forall_conns_shift hal).mpr h.selfFoot⟩
  · intro tr htr i j hij hj
    obtain ⟨t0, ht0, rfl⟩ := List.mem_map.mp htr
    simp only [shiftTrip, List.length_map] at hj
    exact getD_map_add_le k (by omega) hj (h.arrMono t0 ht0 i j hij hj)
  · intro tr htr i j hij hj
    obtain ⟨t0, ht0, rfl⟩ := List.mem_map.mp htr
    simp only [shiftTrip, List.length_map] at hj
    have ha := hal t0 ht0
    exact getD_map_add_le k (by omega) (by omega) (h.depMono t0 ht0 i j hij hj)
  · intro tr htr i hi
    obtain ⟨t0, ht0, rfl⟩ := List.mem_map.mp htr
    simp only [shiftTrip, List.length_map] at hi
    have ha := hal t0 ht0
    exact getD_map_add_le k (by omega) hi (h.hop t0 ht0 i hi)

theorem posHops_shift (k : Int) {ds : Dataset} (h : PosHops ds) (hal : TripsAligned ds) : PosHops (shiftDs k ds) :=
  (forall_conns_shift hal).mpr fun c hc => by have := h c hc; show c.dep + k < c.arr + k; omega

theorem selfFootArr_shift (k : Int) {ds : Dataset} (h : SelfFootArr ds) (hal : TripsAligned ds) : SelfFootArr (shiftDs k ds) :=
  (forall_conns_shift hal).mpr h

theorem stopsInRange_shift (k : Int) {ds : Dataset} (h : StopsInRange ds) (hal : TripsAligned ds) : StopsInRange (shiftDs k ds) :=
  (forall_conns_shift hal).mpr h

theorem depStopsInRange_shift (k : Int) {ds : Dataset} (h : DepStopsInRange ds) (hal : TripsAligned ds) :
    DepStopsInRange (shiftDs k ds) :=
  (forall_conns_shift hal).mpr h

/-- what is left of the domain hypotheses for the shifted side once the structural ones have been moved along -/
structure ShiftInRange (ds : Dataset) (p : Params) (k : Int) : Prop where
  tb : TimesBounded (shiftDs k ds)
  ab : ArrBounded (shiftDs k ds)
  t0 : 0 ≤ p.time + k
  t32 : p.time + k < (HOUR_END : Int) * 3600

theorem C03Dom.shift {ds : Dataset} {p : Params} (D : C03Dom ds p) (hal : TripsAligned ds) {k : Int} (R : ShiftInRange ds p k) :
    C03Dom (shiftDs k ds) (shiftP k p) :=
  ⟨wfData_shift k D.wf hal, D.fwd, D.mw, D.mt, posHops_shift k D.pos hal, selfFootArr_shift k D.self hal, R.tb, R.ab,
   stopsInRange_shift k D.r1 hal, depStopsInRange_shift k D.r2 hal, D.cap, D.acc, D.accNd, D.egr, D.egrNd, R.t0, R.t32⟩

theorem C04Dom.shift {ds : Dataset} {p : Params} (D : C04Dom ds p) (hal : TripsAligned ds) {k : Int} (R : ShiftInRange ds p k) :
    C04Dom (shiftDs k ds) (shiftP k p) :=
  ⟨wfData_shift k D.wf hal, D.rev, D.mw, D.mt, posHops_shift k D.pos hal, R.tb,
   stopsInRange_shift k D.r1 hal, depStopsInRange_shift k D.r2 hal, D.egr, D.egrNd, D.acc, D.accNd, R.t0⟩

/-- **C12, departure-time route queries** with the hypotheses on the shifted side reduced to `ShiftInRange` -/
theorem C12_departure (ds : Dataset) (p : Params) (k : Int) (D : C03Dom ds p) (hal : TripsAligned ds)
    (R : ShiftInRange ds p k) :
    (∀ r, calculateSingle ds p = .ok r → ∃ r', calculateSingle (shiftDs k ds) (shiftP k p) = .ok r' ∧
      r'.arrivalTime = r.arrivalTime + k ∧ r'.departureTime = r.departureTime + k) ∧
    (∀ r', calculateSingle (shiftDs k ds) (shiftP k p) = .ok r' → ∃ r, calculateSingle ds p = .ok r) :=
  C12_departure_query ds p k D (D.shift hal R) hal

/-- **C12, arrival-time route queries** with the hypotheses on the shifted side reduced to `ShiftInRange` -/
theorem C12_arrival (ds : Dataset) (p : Params) (k : Int) (D : C04Dom ds p) (hal : TripsAligned ds)
    (R : ShiftInRange ds p k) :
    (∀ r, calculateSingle ds p = .ok r → 0 ≤ r.departureTime + k →
      ∃ r', calculateSingle (shiftDs k ds) (shiftP k p) = .ok r' ∧ r'.departureTime = r.departureTime + k) ∧
    (∀ r', calculateSingle (shiftDs k ds) (shiftP k p) = .ok r' → 0 ≤ r'.departureTime + -k →
      ∃ r, calculateSingle ds p = .ok r ∧ r'.departureTime = r.departureTime + k) :=
  C12_arrival_query ds p k D (D.shift hal R) hal


/-- the domain of C08 (see `C08_complete`) -/
structure C08Dom (ds : Dataset) (p : Params) : Prop where
  wf : WFData ds
  fwd : p.forward = true
  mw : 0 ≤ p.minWait
  mt : 0 ≤ p.maxTransfer
  tb : TimesBounded ds
  pos : PosHops ds
  self : SelfFootArr ds
  r1 : StopsInRange ds
  cap : p.maxFirstWait ≤ 0
  acc : ∀ a ∈ ds.access, 0 ≤ a.time
  accNd : (ds.access.map (·.stop)).Nodup
  t0 : 0 ≤ p.time
  t32 : p.time < (HOUR_END : Int) * 3600

theorem accNode_stop_unique {L : List AccNode} (hs : (L.map (·.stop)).Pairwise (· < ·)) {a b : AccNode} (ha : a ∈ L) (hb : b ∈ L)
    (hab : a.stop = b.stop) : a = b := by
  induction L with
  | nil => cases ha
  | cons c rest ih =>
    simp only [List.map_cons, List.pairwise_cons] at hs
    rcases List.mem_cons.mp ha with rfl | ha' <;> rcases List.mem_cons.mp hb with rfl | hb'
    · rfl
    · have := hs.1 b.stop (List.mem_map_of_mem hb'); omega
    · have := hs.1 a.stop (List.mem_map_of_mem ha'); omega
    · exact ih hs.2 ha' hb'

theorem accMap_squeeze {l l' : List AccNode} {k : Int} (hs : (l.map (·.stop)).Pairwise (· < ·)) (hs' : (l'.map (·.stop)).Pairwise (· < ·))
    (hf : ∀ a ∈ l, ∃ a' ∈ l', a'.stop = a.stop ∧ a'.totalTravelTime ≤ a.totalTravelTime)
    (hb : ∀ a' ∈ l', ∃ a ∈ l, a.stop = a'.stop ∧ a.totalTravelTime ≤ a'.totalTravelTime)
    (hnt : ∀ a ∈ l, ∀ a' ∈ l', a'.totalTravelTime = a.totalTravelTime → a'.nodeTime = a.nodeTime + k) :
    (∀ a ∈ l, ∃ a' ∈ l', a'.stop = a.stop ∧ a'.nodeTime = a.nodeTime + k ∧ a'.totalTravelTime = a.totalTravelTime) ∧
    (∀ a' ∈ l', ∃ a ∈ l, a'.stop = a.stop ∧ a'.nodeTime = a.nodeTime + k ∧ a'.totalTravelTime = a.totalTravelTime) := by
  constructor
  · intro a ha
    obtain ⟨a', ha', hs1, ht1⟩ := hf a ha
    obtain ⟨a2, ha2, hs2, ht2⟩ := hb a' ha'
    cases accNode_stop_unique hs ha2 ha (hs2.trans hs1)
    have ht : a'.totalTravelTime = a.totalTravelTime := by omega
    exact ⟨a', ha', hs1, hnt a ha a' ha' ht, ht⟩
  · intro a' ha'
    obtain ⟨a, ha, hs1, ht1⟩ := hb a' ha'
    obtain ⟨a2, ha2, hs2, ht2⟩ := hf a ha
    cases accNode_stop_unique hs' ha2 ha' (hs2.trans hs1)
    have ht : a'.totalTravelTime = a.totalTravelTime := by omega
    exact ⟨a, ha, hs1.symm, hnt a ha a' ha' ht, ht⟩

theorem shift_map_forward_le {ds ds' : Dataset} {p p' : Params} {k : Int} (hds : shiftDs k ds = ds') (hp : shiftP k p = p')
    (D : C08Dom ds p) (D' : C08Dom ds' p') (hal : TripsAligned ds) {l l' : List AccNode} {n n' : Nat}
    (h : calculateAllNodes ds p = .ok (l, n)) (h' : calculateAllNodes ds' p' = .ok (l', n')) :
    ∀ a ∈ l, ∃ a' ∈ l', a'.stop = a.stop ∧ a'.totalTravelTime ≤ a.totalTravelTime := by
  subst hds hp
  intro a ha
  obtain ⟨_, htt, hmax, e, x, ⟨heC, hB⟩, hxC, htrip, hseq, hcu, hstop, harr⟩ :=
    (C08_sound ds D.wf p D.fwd D.mw D.mt D.tb h).2.2 a ha
  have hB' := BoardP.shift k (ctxSame_shift k ds p _ _ p.time (-1) (p.time + k) (-1)) rfl (mem_fwd_shift k ds hal _) hB
  obtain ⟨a', ha', hs', ht'⟩ := C08_complete (shiftDs k ds) D'.wf (shiftP k p) D'.fwd D'.mw D'.mt D'.tb D'.pos D'.self D'.r1
    D'.cap D'.acc D'.accNd D'.t0 D'.t32 h' (shiftConn k e) (mem_fwd_shift k ds hal _ e heC) (shiftConn k x)
    (mem_fwd_shift k ds hal _ x hxC) hB' htrip hseq hcu
    (by show x.arr + k - (p.time + k) ≤ p.maxTotal; omega)
  refine ⟨a', ha', by rw [hs']; exact hstop, ?_⟩
  have htt' : a'.totalTravelTime = a'.nodeTime - (p.time + k) :=
    ((C08_sound _ D'.wf _ D'.fwd D'.mw D'.mt D'.tb h').2.2 a' ha').2.1
  have : a'.nodeTime ≤ x.arr + k := ht'
  omega

/-- **C12 for departure accessibility maps, on the domain of C08.** When both sides return a map,
    the shifted map lists exactly the same stops, each with its time moved by exactly `k` (and
    therefore the same travel time); the stop count is unchanged. -/
theorem C12_accessibility_departure (ds : Dataset) (p : Params) (k : Int) (D : C08Dom ds p)
    (D' : C08Dom (shiftDs k ds) (shiftP k p)) (hal : TripsAligned ds) {l l' : List AccNode} {n n' : Nat}
    (h : calculateAllNodes ds p = .ok (l, n)) (h' : calculateAllNodes (shiftDs k ds) (shiftP k p) = .ok (l', n')) :
    n' = n ∧
    (∀ a ∈ l, ∃ a' ∈ l', a'.stop = a.stop ∧ a'.nodeTime = a.nodeTime + k ∧ a'.totalTravelTime = a.totalTravelTime) ∧
    (∀ a' ∈ l', ∃ a ∈ l, a'.stop = a.stop ∧ a'.nodeTime = a.nodeTime + k ∧ a'.totalTravelTime = a.totalTravelTime) := by
  obtain ⟨hn, hsorted, hall⟩ := C08_sound ds D.wf p D.fwd D.mw D.mt D.tb h
  obtain ⟨hn', hsorted', hall'⟩ := C08_sound (shiftDs k ds) D'.wf (shiftP k p) D'.fwd D'.mw D'.mt D'.tb h'
  refine ⟨by rw [hn, hn']; rfl, accMap_squeeze hsorted hsorted' (shift_map_forward_le rfl rfl D D' hal h h')
    (shift_map_forward_le (shiftDs_neg k ds) (shiftP_neg k p) D' D (aligned_shift k ds hal) h' h) ?_⟩
  intro a ha a' ha' ht
  have h1 := (hall a ha).2.1
  have h2 : a'.totalTravelTime = a'.nodeTime - (p.time + k) := (hall' a' ha').2.1
  omega


/-- the domain of C09 (see `C09_complete`); accessibility requests exclude no line -/
structure C09Dom (ds : Dataset) (p : Params) : Prop where
  wf : WFData ds
  rev : p.forward = false
  mw : 0 ≤ p.minWait
  mt : 0 ≤ p.maxTransfer
  pos : PosHops ds
  r2 : DepStopsInRange ds
  egr : ∀ g ∈ ds.egress, 0 ≤ g.time
  egrNd : (ds.egress.map (·.stop)).Nodup
  t0 : 0 ≤ p.time
  noExcept : p.exceptLines = []

theorem shift_map_reverse_le {ds ds' : Dataset} {p p' : Params} {k : Int} (hds : shiftDs k ds = ds') (hp : shiftP k p = p')
    (D : C09Dom ds p) (D' : C09Dom ds' p') (hal : TripsAligned ds) {l l' : List AccNode} {n n' : Nat}
    (h : calculateAllNodes ds p = .ok (l, n)) (h' : calculateAllNodes ds' p' = .ok (l', n')) :
    ∀ a ∈ l, ∃ a' ∈ l', a'.stop = a.stop ∧ a'.totalTravelTime ≤ a.totalTravelTime := by
  subst hds hp
  intro a ha
  obtain ⟨_, htt, hmax, e, legs, xl, eg, hok, hhead, hestop, hecb, hnt, hlast, hegm, hegs, harr⟩ :=
    (C09_sound ds D.wf p D.rev D.mw h).2.2 a ha
  have hsub := connSetOf_rev_sub ds (ds.scenarioOf p)
  have hnd : ∀ c ∈ (ds.connSetOf (ds.scenarioOf p)).rev,
      (qCtx ds p [] (routerLookup ds.egress p.maxEgress) (-1) p.time).disabled c.trip = false := by
    intro c _
    show queryDisabled _ p c.trip = false
    unfold queryDisabled
    rw [D.noExcept]; rfl
  obtain ⟨l1, hl1, hl1e⟩ := Option.bind_eq_some_iff.mp hhead
  have hne : legs ≠ [] := by intro hnil; rw [hnil] at hl1; cases hl1
  obtain ⟨e1, x1, he1, hx1, hr1⟩ := hok.isRide l1 (List.mem_of_mem_head? hl1)
  rw [hl1e] at he1; cases he1
  -- from the last alighting the place is reached in time
  have hU := legs_unboard hnd legs hok hne (by
    intro ll x hll hx
    have hxl : xl = x := by
      simp only [lastExit, hll, Option.bind_some, hx, Option.some.injEq] at hlast
      exact hlast.symm
    subst hxl
    obtain ⟨e', x', he', hx', hrr⟩ := hok.isRide ll (List.mem_of_getLast? hll)
    rw [hx] at hx'; cases hx'
    exact ⟨hrr.2.2.2.2.2, hnd xl hrr.2.1, p.time - eg.time, hegs ▸ RReach.egress eg hegm, by have := harr D.egrNd; omega⟩)
    l1 x1 hl1 hx1
  have hU' := hU.shift k (ctxSame_shift k ds p _ _ (-1) p.time (-1) (p.time + k)) rfl (mem_rev_shift k ds hal _)
  have hw : ds.mwOfTrip p e.trip = e.effWait p.minWait := (conns_effWait D.wf.toWFSchedule p e (hsub e hr1.1)).symm
  obtain ⟨a', ha', hs', ht'⟩ := C09_complete (shiftDs k ds) D'.wf (shiftP k p) D'.rev D'.mw D'.mt D'.pos D'.r2 D'.egr D'.egrNd
    D'.t0 h' (shiftConn k e) (mem_rev_shift k ds hal _ e hr1.1) (shiftConn k x1) (mem_rev_shift k ds hal _ x1 hr1.2.1)
    hU' hr1.2.2.1 hr1.2.2.2.1 hecb
    (by show p.time + k - (e.dep + k - e.effWait p.minWait) ≤ p.maxTotal; omega)
  refine ⟨a', ha', by rw [hs']; exact hestop, ?_⟩
  have htt' : a'.totalTravelTime = p.time + k - a'.nodeTime := ((C09_sound _ D'.wf _ D'.rev D'.mw h').2.2 a' ha').2.1
  have : e.dep + k - e.effWait p.minWait ≤ a'.nodeTime := ht'
  omega

/-- **C12 for arrival accessibility maps, on the domain of C09.** When both sides return a map, the
    shifted map lists exactly the same stops, each with its time moved by exactly `k` (and the same
    travel time); the stop count is unchanged. -/
theorem C12_accessibility_arrival (ds : Dataset) (p : Params) (k : Int) (D : C09Dom ds p)
    (D' : C09Dom (shiftDs k ds) (shiftP k p)) (hal : TripsAligned ds) {l l' : List AccNode} {n n' : Nat}
    (h : calculateAllNodes ds p = .ok (l, n)) (h' : calculateAllNodes (shiftDs k ds) (shiftP k p) = .ok (l', n')) :
    n' = n ∧
    (∀ a ∈ l, ∃ a' ∈ l', a'.stop = a.stop ∧ a'.nodeTime = a.nodeTime + k ∧ a'.totalTravelTime = a.totalTravelTime) ∧
    (∀ a' ∈ l', ∃ a ∈ l, a'.stop = a.stop ∧ a'.nodeTime = a.nodeTime + k ∧ a'.totalTravelTime = a.totalTravelTime) := by
  obtain ⟨hn, hsorted, hall⟩ := C09_sound ds D.wf p D.rev D.mw h
  obtain ⟨hn', hsorted', hall'⟩ := C09_sound (shiftDs k ds) D'.wf (shiftP k p) D'.rev D'.mw h'
  refine ⟨by rw [hn, hn']; rfl, accMap_squeeze hsorted hsorted' (shift_map_reverse_le rfl rfl D D' hal h h')
    (shift_map_reverse_le (shiftDs_neg k ds) (shiftP_neg k p) D' D (aligned_shift k ds hal) h' h) ?_⟩
  intro a ha a' ha' ht
  have h1 := (hall a ha).2.1
  have h2 : a'.totalTravelTime = p.time + k - a'.nodeTime := (hall' a' ha').2.1
  omega


theorem C08Dom.shift {ds : Dataset} {p : Params} (D : C08Dom ds p) (hal : TripsAligned ds) {k : Int} (R : ShiftInRange ds p k) :
    C08Dom (shiftDs k ds) (shiftP k p) :=
  ⟨wfData_shift k D.wf hal, D.fwd, D.mw, D.mt, R.tb, posHops_shift k D.pos hal, selfFootArr_shift k D.self hal,
   stopsInRange_shift k D.r1 hal, D.cap, D.acc, D.accNd, R.t0, R.t32⟩

theorem C09Dom.shift {ds : Dataset} {p : Params} (D : C09Dom ds p) (hal : TripsAligned ds) {k : Int} (h0 : 0 ≤ p.time + k) :
    C09Dom (shiftDs k ds) (shiftP k p) :=
  ⟨wfData_shift k D.wf hal, D.rev, D.mw, D.mt, posHops_shift k D.pos hal, depStopsInRange_shift k D.r2 hal, D.egr, D.egrNd, h0,
   D.noExcept⟩

/-- **C12, departure accessibility maps** with the shifted side's hypotheses reduced to `ShiftInRange` -/
theorem C12_map_departure (ds : Dataset) (p : Params) (k : Int) (D : C08Dom ds p) (hal : TripsAligned ds)
    (R : ShiftInRange ds p k) {l l' : List AccNode} {n n' : Nat}
    (h : calculateAllNodes ds p = .ok (l, n)) (h' : calculateAllNodes (shiftDs k ds) (shiftP k p) = .ok (l', n')) :
    n' = n ∧
    (∀ a ∈ l, ∃ a' ∈ l', a'.stop = a.stop ∧ a'.nodeTime = a.nodeTime + k ∧ a'.totalTravelTime = a.totalTravelTime) ∧
    (∀ a' ∈ l', ∃ a ∈ l, a'.stop = a.stop ∧ a'.nodeTime = a.nodeTime + k ∧ a'.totalTravelTime = a.totalTravelTime) :=
  C12_accessibility_departure ds p k D (D.shift hal R) hal h h'

/-- **C12, arrival accessibility maps** with the shifted side's hypotheses reduced to a non-negative requested time -/
theorem C12_map_arrival (ds : Dataset) (p : Params) (k : Int) (D : C09Dom ds p) (hal : TripsAligned ds)
    (h0 : 0 ≤ p.time + k) {l l' : List AccNode} {n n' : Nat}
    (h : calculateAllNodes ds p = .ok (l, n)) (h' : calculateAllNodes (shiftDs k ds) (shiftP k p) = .ok (l', n')) :
    n' = n ∧
    (∀ a ∈ l, ∃ a' ∈ l', a'.stop = a.stop ∧ a'.nodeTime = a.nodeTime + k ∧ a'.totalTravelTime = a.totalTravelTime) ∧
    (∀ a' ∈ l', ∃ a ∈ l, a'.stop = a.stop ∧ a'.nodeTime = a.nodeTime + k ∧ a'.totalTravelTime = a.totalTravelTime) :=
  C12_accessibility_arrival ds p k D (D.shift hal h0) hal h h'

end Tr
