/-
  Property C12: the STATUS of an accessibility request is translation invariant on the domains of
  C08 / C09, for data whose stops are in range and whose arrival times are non-negative on both sides (what
  `calculateAllNodes_no_exception` asks for): a map is returned on one side exactly when one is returned on the
  other (and then `C12_map_departure` / `C12_map_arrival` say the maps agree).  An accessibility
  calculation returns a map exactly when the router offers a stop and some connection is caught
  (C07 + the termination theorems), and both conditions are translation invariant.
-/
import TrVerif.Props.C12Reason
namespace Tr

theorem exists_mem_iff_not_forall_not {α : Type} {l : List α} {P : α → Prop} : (∃ c ∈ l, P c) ↔ ¬ ∀ c ∈ l, ¬ P c :=
  ⟨fun ⟨c, hc, h⟩ hall => hall c hc h, fun h => Classical.byContradiction fun hno => h fun c hc hp => hno ⟨c, hc, hp⟩⟩

theorem ok_iff_not_of_reason {β γ : Type} {o : Outcome (β × γ)} {S : Reason} {Q : Prop} (hex : ∀ w, o ≠ .exception w)
    (hr : ∀ r, o = .noRouting r → r = S) (hS : o = .noRouting S ↔ Q) : (∃ l n, o = .ok (l, n)) ↔ ¬ Q := by
  refine ⟨fun ⟨l, n, h⟩ hq => (nomatch h.symm.trans (hS.mpr hq)), fun hq => ?_⟩
  match o with
  | .ok v => exact ⟨v.1, v.2, rfl⟩
  | .exception w => exact absurd rfl (hex w)
  | .noRouting r => exact absurd (hS.mp (congrArg _ (hr r rfl))) hq

theorem allNodes_ok_iff_forward (ds : Dataset) (p : Params) (hp : p.forward = true) (hwf : WFData ds) (hpos : PosHops ds)
    (hr1 : StopsInRange ds) (hr2 : DepStopsInRange ds) (hnn : NonnegArr ds) (hmw : 0 ≤ p.minWait) (hmt : 0 ≤ p.maxTransfer)
    (hacc : ∀ a ∈ ds.access, 0 ≤ a.time) (h0 : 0 ≤ p.time) (ht : p.time < (HOUR_END : Int) * 3600) :
    (∃ l n, calculateAllNodes ds p = .ok (l, n)) ↔
      (routerLookup ds.access p.maxAccess ≠ [] ∧
        ∃ c ∈ (ds.connSetOf (ds.scenarioOf p)).fwd, CaughtF (qCtx ds p (routerLookup ds.access p.maxAccess) [] p.time (-1)) c) := by
  rw [exists_mem_iff_not_forall_not]
  rcases calculateAllNodesCS_cases ds (ds.connSetOf (ds.scenarioOf p)) p with ⟨_, ha, h⟩ | ⟨_, ha, hr⟩ | ⟨hf, _⟩ | ⟨hf, _⟩
  · exact ⟨fun ⟨l, n, h'⟩ => (nomatch h'.symm.trans h), fun h' => absurd ha h'.1⟩
  · rw [ok_iff_not_of_reason (calculateAllNodes_no_exception ds hwf hpos hr1 hr2 hnn p hmw hmt) hr
      (C07_no_service_at_place_forward_data ds p hp h0 ht ha hacc)]
    exact (and_iff_right ha).symm
  · exact nomatch hp.symm.trans hf
  · exact nomatch hp.symm.trans hf

/-- **C12, status of departure accessibility requests** on the domain of C08 with, in addition, departure stops in
    range and non-negative arrival times on both sides: a map is returned for the request exactly when one is
    returned for the shifted request on the shifted data. -/
theorem C12_map_status_departure (ds : Dataset) (p : Params) (k : Int) (D : C08Dom ds p) (hr2 : DepStopsInRange ds)
    (hnn : NonnegArr ds) (hnn' : NonnegArr (shiftDs k ds)) (hal : TripsAligned ds) (R : ShiftInRange ds p k) :
    (∃ l n, calculateAllNodes ds p = .ok (l, n)) ↔
      (∃ l' n', calculateAllNodes (shiftDs k ds) (shiftP k p) = .ok (l', n')) := by
  have D' := D.shift hal R
  rw [allNodes_ok_iff_forward ds p D.fwd D.wf D.pos D.r1 hr2 hnn D.mw D.mt D.acc D.t0 D.t32,
    allNodes_ok_iff_forward (shiftDs k ds) (shiftP k p) D'.fwd D'.wf D'.pos D'.r1 (depStopsInRange_shift k hr2 hal) hnn'
      D'.mw D'.mt D'.acc D'.t0 D'.t32, exists_mem_iff_not_forall_not, exists_mem_iff_not_forall_not]
  exact and_congr_right fun _ =>
    not_congr (nothing_caughtF_shift ds p k _ [] hal D.mw D.tb D'.tb (routerLookup_nodup _ _ D.accNd)).symm

theorem allNodes_ok_iff_reverse (ds : Dataset) (p : Params) (hp : p.forward = false) (hwf : WFData ds) (hpos : PosHops ds)
    (hr1 : StopsInRange ds) (hr2 : DepStopsInRange ds) (hnn : NonnegArr ds) (hmw : 0 ≤ p.minWait) (hmt : 0 ≤ p.maxTransfer)
    (h0 : 0 ≤ p.time) :
    (∃ l n, calculateAllNodes ds p = .ok (l, n)) ↔
      (routerLookup ds.egress p.maxEgress ≠ [] ∧
        ∃ c ∈ (ds.connSetOf (ds.scenarioOf p)).rev, CaughtR (qCtx ds p [] (routerLookup ds.egress p.maxEgress) (-1) p.time) false c) := by
  rw [exists_mem_iff_not_forall_not]
  rcases calculateAllNodesCS_cases ds (ds.connSetOf (ds.scenarioOf p)) p with ⟨hf, _⟩ | ⟨hf, _⟩ | ⟨_, he, h⟩ | ⟨_, he, hr⟩
  · exact nomatch hf.symm.trans hp
  · exact nomatch hf.symm.trans hp
  · exact ⟨fun ⟨l, n, h'⟩ => (nomatch h'.symm.trans h), fun h' => absurd he h'.1⟩
  · rw [ok_iff_not_of_reason (calculateAllNodes_no_exception ds hwf hpos hr1 hr2 hnn p hmw hmt) hr
      (C07_no_service_at_place_reverse ds p hp h0 he)]
    exact (and_iff_right he).symm

/-- **C12, status of arrival accessibility requests** on the domain of C09 with, in addition, arrival stops in range
    and non-negative arrival times on both sides: the same. -/
theorem C12_map_status_arrival (ds : Dataset) (p : Params) (k : Int) (D : C09Dom ds p) (hr1 : StopsInRange ds)
    (hnn : NonnegArr ds) (hnn' : NonnegArr (shiftDs k ds)) (hal : TripsAligned ds) (h0 : 0 ≤ p.time + k) :
    (∃ l n, calculateAllNodes ds p = .ok (l, n)) ↔
      (∃ l' n', calculateAllNodes (shiftDs k ds) (shiftP k p) = .ok (l', n')) := by
  have D' := D.shift hal h0
  rw [allNodes_ok_iff_reverse ds p D.rev D.wf D.pos hr1 D.r2 hnn D.mw D.mt D.t0,
    allNodes_ok_iff_reverse (shiftDs k ds) (shiftP k p) D'.rev D'.wf D'.pos (stopsInRange_shift k hr1 hal) D'.r2 hnn'
      D'.mw D'.mt D'.t0, exists_mem_iff_not_forall_not, exists_mem_iff_not_forall_not]
  exact and_congr_right fun _ =>
    not_congr (nothing_caughtR_shift ds p k [] _ false hal hnn hnn' (routerLookup_nodup _ _ D.egrNd)).symm

end Tr
