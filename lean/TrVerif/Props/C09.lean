/-
  Property C09 — arrival accessibility lists exactly the usable stops, latest boarding times.

  This file: the *soundness* half. Every stop an arrival-time accessibility answer lists is usable,
  with the reported time: there is a chain of scheduled rides (`LegsOK`: each a ride of one trip,
  boarding and alighting permitted, each change by one footpath within the transfer maximum and
  after the minimum waiting time) that boards at that stop at `nodeTime` + minimum waiting, and
  whose last alighting is at a stop the router offers around the place, early enough to walk there
  by the requested time (if the router lists each stop once); `totalTravelTime` is the requested
  time minus `nodeTime` and is within max_travel_time; each stop is listed once, in ascending order; `totalNodeCount` is the number of
  stops. That every usable stop is listed, and that `nodeTime` is the LATEST such time, is
  `C09_complete` and `C09_latest` in `Props/C09Complete`.
-/
import TrVerif.Props.C02
namespace Tr

theorem reverseNode_ok {cx : Ctx} {s : RState} {node : Nat} {first : JStep} {e : Conn} (hf : s.acc node = some first)
    (he : first.enter = some e) {o : Option AccNode} (h : reverseNode cx s node = .ok o) :
    ∃ legs lastStop eg, reconLoop s.steps (cx.ds.nStops + 2) first [] none = some (legs, lastStop) ∧
      lastStop.bind cx.nodesEgress = some eg ∧
      ∃ n, o = if cx.arrT - (e.dep - e.effWait cx.p.minWait) ≤ cx.p.maxTotal then
        some { stop := node, nodeTime := cx.arrT - (cx.arrT - (e.dep - e.effWait cx.p.minWait)),
               totalTravelTime := cx.arrT - (e.dep - e.effWait cx.p.minWait), numberOfTransfers := n }
        else none := by
  unfold reverseNode at h
  rw [hf] at h
  simp only at h
  cases hrec : reconLoop s.steps (cx.ds.nStops + 2) first [] none with
  | none => rw [hrec] at h; cases h
  | some res =>
    obtain ⟨legs, lastStop⟩ := res
    rw [hrec] at h
    simp only at h
    cases heg : lastStop.bind cx.nodesEgress with
    | none => rw [heg] at h; cases h
    | some eg =>
      rw [heg] at h
      simp only at h
      cases hopt : optimizeJourney cx.ds (legs ++ [{ walk := eg.time, dist := eg.dist : JStep }]) with
      | none => rw [hopt] at h; cases h
      | some oj =>
        rw [hopt] at h
        simp only [he] at h
        refine ⟨legs, lastStop, eg, rfl, heg, countTransfers cx.ds oj.journey, ?_⟩
        split at h
        · next hc => rw [if_pos hc]; cases h; rfl
        · next hc => rw [if_neg hc]; cases h; rfl

theorem reverseNode_sound {cx : Ctx} {pre : List Conn} {s : RState} (hI : RInv cx pre s) {node : Nat} {a : AccNode}
    (h : reverseNode cx s node = .ok (some a)) :
    a.stop = node ∧ a.totalTravelTime = cx.arrT - a.nodeTime ∧ a.totalTravelTime ≤ cx.p.maxTotal ∧
    ∃ e legs xl eg, LegsOK cx pre legs ∧ legs.head?.bind (·.enter) = some e ∧ e.depStop = node ∧ e.canBoard = true ∧
      a.nodeTime = e.dep - e.effWait cx.p.minWait ∧
      lastExit legs = some xl ∧ eg ∈ cx.egressFoot ∧ eg.stop = xl.arrStop ∧ (cx.EgrNodup → xl.arr + eg.time ≤ cx.arrT) := by
  cases hacc : s.acc node with
  | none => unfold reverseNode at h; rw [hacc] at h; cases h
  | some first =>
    obtain ⟨e1, x1, a1, a2, a3, a4, _⟩ := hI.acc node first hacc
    obtain ⟨legs, lastStop, eg, hrec, heg, n, ho⟩ := reverseNode_ok hacc a1 h
    by_cases hc : cx.arrT - (e1.dep - e1.effWait cx.p.minWait) ≤ cx.p.maxTotal
    · rw [if_pos hc] at ho
      cases ho
      have hconn : first.hasConns = true := (hasConns_iff first).mpr ⟨e1, x1, a1, a2⟩
      have hinit : RecInv cx pre s [] first none := by
        refine ⟨trivial, rfl, ?_, fun h => absurd rfl h⟩
        intro e he; rw [a1] at he; cases he; exact ⟨x1, a2, a3⟩
      have hres := reconLoop_valid hI _ _ _ _ _ _ hinit (fun _ => hconn) hrec
      have hhead := reconLoop_head s.steps _ _ _ _ _ _ (fun _ => hconn) hrec
      simp only [List.nil_append, List.head?_cons, Option.bind_some] at hhead
      obtain ⟨ll, el, xl, hl1, hl2, hl3, hl4, hl5, _, _⟩ := hres.fin
      rw [hl4] at heg
      simp only [Option.bind_some] at heg
      have hm := nodes_mem heg
      refine ⟨rfl, by simp; omega, by simpa using hc, e1, legs, xl, eg, hres.ok, by rw [hhead, a1], a4, a3.2.2.2.2.1, by simp; omega,
        by simp [lastExit, hl1, hl3], hm.1, hm.2, ?_⟩
      intro hnd
      have hlab := init_lab_egress hnd hm.1
      rw [hm.2] at hlab
      rw [hlab] at hl5
      omega
    · rw [if_neg hc] at ho; cases ho

def raccCtx (ds : Dataset) (p : Params) : Ctx :=
  mkCtx (ds.restrict (ds.connSetOf (ds.scenarioOf p))) p (ds.connSetOf (ds.scenarioOf p)) []
    (routerLookup ds.egress p.maxEgress) (-1) p.time

theorem calculateAllNodes_rev {ds : Dataset} {p : Params} (hp : p.forward = false) {l : List AccNode} {n : Nat}
    (h : calculateAllNodes ds p = .ok (l, n)) :
    ∃ start, lookupPos (revLookup (raccCtx ds p).cs.rev (raccCtx ds p).cs.revIdx (hourOf p.time + 1)) = some start ∧
      n = ds.nStops ∧
      collectNodes (reverseNode (raccCtx ds p) (revScan (raccCtx ds p) (fun _ => true) false start)) (List.range ds.nStops) [] =
        .ok l := by
  unfold calculateAllNodes calculateAllNodesCS at h
  simp only [hp, Bool.false_eq_true, if_false] at h
  split at h
  · cases h
  · split at h
    · cases h
    · next start hstart =>
      split at h
      · cases h
      · split at h
        · next l' hcoll =>
          simp only [Outcome.ok.injEq, Prod.mk.injEq] at h
          obtain ⟨rfl, rfl⟩ := h
          exact ⟨start, hstart, rfl, hcoll⟩
        · cases h
        · cases h

/-- **C09 (soundness half).** -/
theorem C09_sound (ds : Dataset) (hwf : WFData ds) (p : Params) (hp : p.forward = false) (hmw : 0 ≤ p.minWait)
    {l : List AccNode} {n : Nat} (h : calculateAllNodes ds p = .ok (l, n)) :
    n = ds.nStops ∧ (l.map (·.stop)).Pairwise (· < ·) ∧
    ∀ a ∈ l, a.stop < ds.nStops ∧ a.totalTravelTime = p.time - a.nodeTime ∧ a.totalTravelTime ≤ p.maxTotal ∧
      ∃ e legs xl eg,
        LegsOK (mkCtx (ds.restrict (ds.connSetOf (ds.scenarioOf p))) p (ds.connSetOf (ds.scenarioOf p)) []
          (routerLookup ds.egress p.maxEgress) (-1) p.time) (ds.connSetOf (ds.scenarioOf p)).rev legs ∧
        legs.head?.bind (·.enter) = some e ∧ e.depStop = a.stop ∧ e.canBoard = true ∧
        a.nodeTime = e.dep - ds.mwOfTrip p e.trip ∧
        lastExit legs = some xl ∧ eg ∈ routerLookup ds.egress p.maxEgress ∧ eg.stop = xl.arrStop ∧
        ((ds.egress.map (·.stop)).Nodup → xl.arr + eg.time ≤ p.time) := by
  have hsub := connSetOf_rev_sub ds (ds.scenarioOf p)
  obtain ⟨start, -, rfl, hcoll⟩ := calculateAllNodes_rev hp h
  have hI : RInv (raccCtx ds p) (ds.connSetOf (ds.scenarioOf p)).rev (revScan (raccCtx ds p) (fun _ => true) false start) :=
    revScan_RInv (fun _ => true) false mem_of_filter (connSetOf_sorted ds _)
      (fun x hx y hy => conns_arrMono hwf.toWFSchedule x (hsub x hx) y (hsub y hy)) hmw start
  refine ⟨rfl, collectNodes_sorted _ (fun n a hn => (reverseNode_sound hI hn).1) _ _ _ hcoll
    (by simpa using List.pairwise_lt_range), fun a ha => ?_⟩
  rcases collectNodes_mem _ _ _ _ hcoll a ha with h0 | ⟨m, hmr, hfm⟩
  · cases h0
  · obtain ⟨h1, h2, h3, e, legs, xl, eg, k1, k2, k3, k4, k5, k6, k7, k8, k9⟩ := reverseNode_sound hI hfm
    have hmem : e ∈ (ds.connSetOf (ds.scenarioOf p)).rev := by
      cases hh : legs.head? with
      | none => rw [hh] at k2; cases k2
      | some l0 =>
        rw [hh] at k2
        exact k1.mem_enter l0 (List.mem_of_mem_head? hh) e k2
    have hmwe : e.effWait p.minWait = ds.mwOfTrip p e.trip := conns_effWait hwf.toWFSchedule p e (hsub e hmem)
    refine ⟨by rw [h1]; exact List.mem_range.mp hmr, h2, h3, e, legs, xl, eg, k1, k2, by rw [h1]; exact k3, k4, ?_, k6, k7, k8,
      fun hnd => k9 (routerLookup_nodup _ _ hnd)⟩
    rw [← hmwe]; exact k5

end Tr
