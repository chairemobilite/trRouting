/-
  Property C20 — walking-router failures degrade to error answers, never to a dead server; requests
  issued after the router recovers are answered exactly as if the fault had never happened.

  PARTIAL. The model (`Model/Osrm.lean`) gives every look-up its own router behaviour (`RouterView`); the only
  state a request leaves behind is the scenario cache, whose contents do not depend on the router
  (`Coherent` is the same predicate for `ds` and `ds.withRouter a e`), so C13's argument carries over.
  NOT proved (observed against the real binary with a scripted router, check/fault_checks.py):
  that the socket layer turns refused / dropped / truncated connections into a caught exception,
  that the process stays up, the HTTP framing of the answers.
-/
import TrVerif.Model.Osrm
import TrVerif.Props.C13
namespace Tr

theorem connSetOf_withRouter (ds : Dataset) (a e : List NTD) (sc : Scenario) :
    (ds.withRouter a e).connSetOf sc = ds.connSetOf sc := rfl

theorem coherent_withRouter {ds : Dataset} {s : Server} (a e : List NTD) :
    Coherent (ds.withRouter a e) s ↔ Coherent ds s := Iff.rfl

theorem handleView_coherent {ds : Dataset} {s : Server} (h : Coherent ds s) (v : RouterView) (r : Request) :
    Coherent ds (handleView ds s v r).1 ∧
    (handleView ds s v r).2 = if throwsFor ds v r then s!"{r.kind} query_error PARAM_ERROR_UNKNOWN"
      else dataAnswer (ds.withRouter v.access.get v.egress.get) r := by
  unfold handleView
  split
  · exact ⟨h, rfl⟩
  · exact handle_coherent ((coherent_withRouter _ _).2 h) r

theorem runViews_coherent {ds : Dataset} (hist : List (RouterView × Request)) {s : Server} (h : Coherent ds s) :
    Coherent ds (runViews ds s hist) :=
  foldl_inv (Coherent ds) (fun _ x _ h => (handleView_coherent h x.1 x.2).1) h

/-- **C20 (recovery).** For every dataset, cache setting, every earlier history of requests each
    served under an arbitrary router behaviour (healthy, empty, throwing - per look-up), and every
    later request `req` served under router behaviour `v`: the answer equals the one a server that
    never saw any of that history gives under `v`. In particular, with `v` healthy, it is the
    fault-free answer. -/
theorem C20_recovery (ds : Dataset) (cacheAll : Bool) (hist : List (RouterView × Request)) (v : RouterView) (req : Request) :
    (handleView ds (runViews ds (Server.init cacheAll) hist) v req).2 = (handleView ds (Server.init cacheAll) v req).2 :=
  (handleView_coherent (runViews_coherent hist (coherent_init ds cacheAll)) v req).2.trans
    (handleView_coherent (coherent_init ds cacheAll) v req).2.symm

/-- a request whose look-up throws is answered with the documented catch-all query error and
    leaves the server state alone -/
theorem C20_faulted_answer (ds : Dataset) (s : Server) (v : RouterView) (r : Request) (h : throwsFor ds v r = true) :
    handleView ds s v r = (s, s!"{r.kind} query_error PARAM_ERROR_UNKNOWN") ∧
    Gen.documentedCodes.contains "PARAM_ERROR_UNKNOWN" = true := by
  constructor
  · unfold handleView; simp [h]
  · decide +kernel

theorem rowsLoop_sound (cands : List Nat) (maxT : Nat) (dur dist : List (Option Nat))
    (fuel i : Nat) (acc l : List NTD) (hacc : ∀ x ∈ acc, x.stop ∈ cands ∧ x.time ≤ maxT)
    (h : rowsLoop cands maxT dur dist fuel i acc = .stops l) : ∀ x ∈ l, x.stop ∈ cands ∧ x.time ≤ maxT := by
  -- cases 1-2 return `acc`, 3, 5, 6 throw, 4 stores an entry and goes on, 7 skips one and goes on
  fun_induction rowsLoop cands maxT dur dist fuel i acc
  case case1 => cases h; exact hacc
  case case2 => cases h; exact hacc
  case case3 => cases h
  case case4 ht _ _ _ hc ih =>
    -- the one place an entry is added: candidate `i - 1`, whose duration passed the test
    exact ih (List.forall_mem_append.2 ⟨hacc, List.forall_mem_singleton.2 ⟨List.mem_of_getElem? hc, by simpa using ht⟩⟩) h
  case case5 => cases h
  case case6 => cases h
  case case7 ih => exact ih hacc h

/-- **C20 (look-up under the listed faults).** Refused / dropped / truncated connection, error
    status, a table without durations: "no stop". Empty or non-JSON body: throws. Any table of rows
    (null entries, fewer entries than requested, a healthy reply): whatever stops come back were
    asked for and are within the limit; nothing is claimed here about when such a table throws
    (`C20_classes` evaluates the scripted cases). -/
theorem C20_fault_lookup (cands : List Nat) (maxT : Nat) (b : Body) (dur dist : List (Option Nat)) :
    lookup cands maxT .transport = .stops [] ∧
    lookup cands maxT (.http false b) = .stops [] ∧
    lookup cands maxT (.http true .noTable) = .stops [] ∧
    lookup cands maxT (.http true .unparsable) = .throws ∧
    (∀ l, lookup cands maxT (.http true (.rows dur dist)) = .stops l → ∀ x ∈ l, x.stop ∈ cands ∧ x.time ≤ maxT) := by
  refine ⟨rfl, rfl, rfl, rfl, ?_⟩
  intro l h
  unfold lookup at h
  by_cases hc : dur.length > 0 ∧ dist.length > 0
  · simp only [hc, and_self, if_true] at h
    exact rowsLoop_sound cands maxT dur dist _ _ [] l (by simp) h
  · simp only [hc, if_false] at h
    cases h; simp

/-- the outcome class of each fault of the scripted router, on a healthy row with a reachable stop:
    the table the check compares the real binary with -/
theorem C20_classes :
    let dur := [some 0, some 10, some 20]; let dist := [some 0, some 15, some 30]; let cands := [4, 7]
    (["refuse", "drop", "truncate", "http500", "http503late", "nodurations"].all fun f => lookup cands 100 (faultReply f dur dist) == .stops []) = true ∧
    (["empty", "nonjson", "nulls"].all fun f => lookup cands 100 (faultReply f dur dist) == .throws) = true ∧
    lookup cands 100 (faultReply "fewer" dur dist) = .stops [⟨4, 10, 15⟩] ∧
    lookup cands 100 (faultReply "healthy" dur dist) = .stops [⟨4, 10, 15⟩, ⟨7, 20, 30⟩] := by decide +kernel

/-- the client keeps nothing between calls (facts re-read from the source on every run): one
    HttpClient per call, no static or mutable member, the filter holds three configuration strings;
    every handler builds its own calculator -/
theorem C20_structure :
    (["osrm_client_per_call", "osrm_filter_members_are_config_strings", "handler_route_own_calculator",
      "handler_summary_own_calculator", "handler_accessibility_own_calculator", "no_static_state_in_calculator"].all
        fun k => Gen.facts.lookup k == some true) = true := by decide +kernel

end Tr
