/-
  Props/C12FullRouteDep — translation invariance of the calculation itself for DEPARTURE-TIME route queries:
  the forward scan in its single-query variant (`fwdScan_shift`, whose invariant `FwdInv1` carries the
  early-termination bookkeeping), the best egress stop, then the second (reverse) pass (`reversePass_shift`)
  from the best arrival time with the trips the forward pass marked usable and a real requested departure time.
-/
import TrVerif.Props.C12FullRoute
namespace Tr

theorem fwdStep_shift1 {k B W : Int} {cx cx' : Ctx} {l : List Conn} (h : CtxSh k cx cx') (hB : B + k < MAX_INT) (hB0 : B < MAX_INT)
    (hfoot : ∀ z, ∀ f ∈ cx.ds.footOf z, f.time ≤ W) (hmw : 0 ≤ cx.p.minWait)
    (c : Conn) (hcl : c ∈ l) (s : FState) (hs : FwdInv1 B l s) (hc : c.arr ≤ B) (hcw : c.arr + W ≤ B) (hcd : c.dep ≤ B) (hcmw : 0 ≤ c.minWait ∨ c.minWait = -1) :
    fwdStep cx' true (shF k s) (shiftConn k c) = shF k (fwdStep cx true s c) ∧ FwdInv1 B l (fwdStep cx true s c) :=
  fwdStep_shift_inv1 h hB hB0 hfoot hmw true c hcl s hs hc hcw hcd

/-- every arrival time `bestEgress` may pick (alighting plus egress walk) lies in `[L, B]` -/
def EgrBounds (L B : Int) (cx : Ctx) (l : List Conn) : Prop :=
  ∀ x ∈ l, ∀ g ∈ cx.egressFoot, L ≤ x.arr + g.time ∧ x.arr + g.time ≤ B

/-- the accumulator is untouched or holds the arrival (alighting + walk) of a scanned connection at an egress stop -/
def BeAcc (cx : Ctx) (l : List Conn) (acc : Int × Option Nat) : Prop :=
  (acc.2 = none ∧ acc.1 = MAX_INT) ∨ ∃ x ∈ l, ∃ g ∈ cx.egressFoot, acc.1 = x.arr + g.time

theorem bestEgressStep_shift {k L B : Int} {cx cx' : Ctx} {l : List Conn} (h : CtxSh k cx cx') (hL : 0 ≤ L) (hLk : 0 ≤ L + k)
    (hB : B + k < MAX_INT) (hB0 : B < MAX_INT) (s : FState) (hegr : EgrFrom l s) (hb : EgrBounds L B cx l)
    (acc : Int × Option Nat) (ha : BeAcc cx l acc) (e : NTD) :
    bestEgressStep cx' (shF k s) (shT k acc.1, acc.2) e = (shT k (bestEgressStep cx s acc e).1, (bestEgressStep cx s acc e).2) ∧ BeAcc cx l (bestEgressStep cx s acc e) := by
  unfold bestEgressStep
  rw [shF_egr_app, nodesEgress_same h.same]
  cases hjs : s.egr e.stop with
  | none => exact ⟨rfl, ha⟩
  | some js =>
    obtain ⟨x0, hx0, hjx⟩ := hegr e.stop js hjs
    simp only [Option.map_some, shJ, hjx]
    cases hne : cx.nodesEgress e.stop with
    | none => exact ⟨rfl, ha⟩
    | some eg =>
      simp only
      have heg : eg ∈ cx.egressFoot := List.mem_of_find?_eq_some hne
      obtain ⟨b1, b2⟩ := hb x0 hx0 eg heg
      have et : (shiftConn k x0).arr + eg.time = (x0.arr + eg.time) + k := by show x0.arr + k + eg.time = _; omega
      rw [et, h.depT, h.maxTotal]
      have hcand : ∃ x ∈ l, ∃ g ∈ cx.egressFoot, x0.arr + eg.time = x.arr + g.time := ⟨x0, hx0, eg, heg, rfl⟩
      generalize x0.arr + eg.time = t at *
      have c1 : t + k ≥ 0 ↔ t ≥ 0 := by omega
      have c2 : t + k - (cx.depT + k) ≤ cx.p.maxTotal ↔ t - cx.depT ≤ cx.p.maxTotal := by omega
      have c3 : t + k < shT k acc.1 ↔ t < acc.1 := lt_shT_iff hB hB0 b2
      have c4 : t + k < MAX_INT ↔ t < MAX_INT := by omega
      simp only [c1, c2, c3, c4]
      by_cases g : t ≥ 0 ∧ t - cx.depT ≤ cx.p.maxTotal ∧ t < acc.1 ∧ t < MAX_INT
      · simp only [if_pos g]; exact ⟨by rw [shT_fin b2 hB0], Or.inr hcand⟩
      · simp only [if_neg g]; exact ⟨trivial, ha⟩

theorem bestEgress_shift {k L B : Int} {cx cx' : Ctx} {l : List Conn} (h : CtxSh k cx cx') (hL : 0 ≤ L) (hLk : 0 ≤ L + k)
    (hB : B + k < MAX_INT) (hB0 : B < MAX_INT) (s : FState) (hegr : EgrFrom l s) (hb : EgrBounds L B cx l) :
    bestEgress cx' (shF k s) = (bestEgress cx s).map (fun r => (r.1 + k, r.2)) ∧
    ∀ t st, bestEgress cx s = some (t, st) → ∃ x ∈ l, ∃ g ∈ cx.egressFoot, t = x.arr + g.time := by
  rw [bestEgress_fold, bestEgress_fold, ← h.same.egr]
  obtain ⟨h1, h2⟩ := foldl_sim (fun acc : Int × Option Nat => (shT k acc.1, acc.2)) id (BeAcc cx l) (fun _ => True)
    (fun acc e ha _ => bestEgressStep_shift h hL hLk hB hB0 s hegr hb acc ha e) cx.egressFoot (MAX_INT, none) (fun _ _ => trivial) (Or.inl ⟨rfl, rfl⟩)
  rw [List.map_id] at h1
  rw [show cx.egressFoot.foldl (bestEgressStep cx' (shF k s)) (MAX_INT, none) = _ from h1]
  generalize cx.egressFoot.foldl (bestEgressStep cx s) (MAX_INT, none) = r at *
  obtain ⟨t, o⟩ := r
  cases o with
  | none => exact ⟨rfl, fun _ _ hh => by simp at hh⟩
  | some st =>
    simp only [Option.map_some]
    rcases h2 with ⟨h2, _⟩ | ⟨x, hx, g, hg, h2⟩
    · simp at h2
    · simp only at h2
      refine ⟨by rw [shT_fin (B := B) (by rw [h2]; exact (hb x hx g hg).2) hB0], ?_⟩
      intro t' st' hh
      simp only [Option.some.injEq, Prod.mk.injEq] at hh
      exact ⟨x, hx, g, hg, by rw [← hh.1]; exact h2⟩

/-- range conditions of the departure-time route theorem (all about clock values staying clear of the sentinels -1 and MAX_INT):
    `L` a lower and `B` an upper bound for every clock value either pass compares, `W` the longest footpath -/
structure RouteFwdRange (ds : Dataset) (p : Params) (k L B W : Int) : Prop where
  hL : 0 ≤ L
  hLk : 0 ≤ L + k
  hB : B + k < MAX_INT
  hB0 : B < MAX_INT
  hW : 0 ≤ W
  time0 : 0 ≤ p.time
  timek : 0 ≤ p.time + k
  foot : ∀ z, ∀ f ∈ ds.footOf z, f.time ≤ W
  rfoot : ∀ z, ∀ f ∈ ds.rfootOf z, f.time ≤ W
  connsF : ConnsLe B W (ds.connSetOf (ds.scenarioOf p)).fwd
  connsR : ConnsGe L W p.minWait (ds.connSetOf (ds.scenarioOf p)).rev
  access0 : ∀ e ∈ ds.access, p.time + e.time ≤ B
  egrB : ∀ x ∈ (ds.connSetOf (ds.scenarioOf p)).fwd, ∀ g ∈ ds.egress, L ≤ x.arr + g.time ∧ x.arr + g.time ≤ B
  egress : ∀ x ∈ (ds.connSetOf (ds.scenarioOf p)).fwd, ∀ g ∈ ds.egress, ∀ e ∈ ds.egress, L ≤ x.arr + g.time - e.time
  access : ∀ e ∈ (ds.connSetOf (ds.scenarioOf p)).rev, ∀ a ∈ ds.access,
    L ≤ e.dep - a.time - e.effWait p.minWait ∧ e.dep - a.time - e.effWait p.minWait ≤ B

/-- the end of a departure-time route query; `f` is the second pass from the best arrival time -/
theorem routeFwdTail_shift (k : Int) (c : Nat) {be : Option (Int × Nat)} {f f' : Int → Outcome Route}
    (hf : ∀ b st, be = some (b, st) → f' (b + k) = shRouteOut k (f b)) :
    (if c = 0 then .noRouting .noServiceFromOrigin else
      match be.map fun r => (r.1 + k, r.2) with
      | none => .noRouting .noRoutingFound
      | some (bestArr, _) => f' bestArr) =
    shRouteOut k (if c = 0 then .noRouting .noServiceFromOrigin else
      match (generalizing := false) be with
      | none => .noRouting .noRoutingFound
      | some (bestArr, _) => f bestArr) := by
  split
  · rfl
  · cases be with
    | none => rfl
    | some r => exact hf r.1 r.2 rfl

/-- **C12 in full for departure-time route queries**: for every well-formed dataset, every query and every offset (range conditions
    only), the answer of the shifted problem is the shifted answer of the original one. -/
theorem C12_full_route_departure (ds : Dataset) (hwf : WFData ds) (p : Params) (k L B W : Int) (hal : TripsAligned ds) (hf : p.forward = true)
    (hmw : 0 ≤ p.minWait) (hmt : 0 ≤ p.maxTransfer) (R : RouteFwdRange ds p k L B W) :
    calculateSingle0 (shiftDs k ds) (shiftP k p) = shRouteOut k (calculateSingle0 ds p) := by
  have hfw : (shiftP k p).forward = true := hf
  have ha : routerLookup (shiftDs k ds).access (shiftP k p).maxAccess = routerLookup ds.access p.maxAccess := rfl
  have he : routerLookup (shiftDs k ds).egress (shiftP k p).maxEgress = routerLookup ds.egress p.maxEgress := rfl
  have hsh := ctxSh_shift k ds p (routerLookup ds.access p.maxAccess) (routerLookup ds.egress p.maxEgress) p.time (shiftP k p).time (-1) (-1) rfl
  have hegrMem : ∀ g ∈ routerLookup ds.egress p.maxEgress, g ∈ ds.egress := fun g hg => (List.mem_filter.1 hg).1
  obtain ⟨hscan, hinv⟩ := fwdScan_shift hsh (fwd_list_shift k ds hal _) R.hB R.hB0 R.foot hmw R.connsF
    (fun e he => R.access0 e (List.mem_filter.1 he).1) true
  obtain ⟨hbe, hspec⟩ := bestEgress_shift hsh R.hL R.hLk R.hB R.hB0 _ hinv.egr fun x hx g hg => R.egrB x hx g (hegrMem g hg)
  unfold calculateSingle0 calculateSingleWith0
  simp only [hfw, hf, if_true]
  rw [scenarioOf_shift, ha, he]
  refine routeGuards_shift k _ _ ?_
  rw [hscan, hbe]
  -- the second pass, from the arrival time the first pass hands over (a scanned arrival plus an egress walk) and its usable trips
  refine routeFwdTail_shift k _ fun b st hb => ?_
  obtain ⟨x, hx, g, hg, ht⟩ := hspec b st hb
  have h1 := R.time0; have h2 := R.timek
  exact reversePass_shift ds hwf p k L B W hal hmw hmt p.time (shiftP k p).time b _
    (Or.inr ⟨by omega, by show p.time + k ≠ -1; omega, rfl⟩)
    ⟨R.hL, R.hLk, R.hB, R.hB0, R.hW, R.rfoot, R.connsR, fun e he' => by rw [ht]; exact R.egress x hx g (hegrMem g hg) e he', R.access⟩

/-- `C12_full_route_departure` for the calculation WITH the hour index (what the server runs), for requests inside [0, 32 h) on
    both sides of the shift and non-negative router walks -/
theorem C12_full_route_departure_indexed (ds : Dataset) (hwf : WFData ds) (p : Params) (k L B W : Int) (hal : TripsAligned ds) (hf : p.forward = true)
    (hmw : 0 ≤ p.minWait) (hmt : 0 ≤ p.maxTransfer) (R : RouteFwdRange ds p k L B W)
    (ht : p.time < (HOUR_END : Int) * 3600) (ht' : p.time + k < (HOUR_END : Int) * 3600)
    (hacc : ∀ a ∈ ds.access, 0 ≤ a.time) (hegr : ∀ g ∈ ds.egress, 0 ≤ g.time) :
    calculateSingle (shiftDs k ds) (shiftP k p) = shRouteOut k (calculateSingle ds p) := by
  rw [C12_index_transparent_route ds p R.time0 ht hacc hegr, C12_index_transparent_route (shiftDs k ds) (shiftP k p) R.timek ht' hacc hegr]
  exact C12_full_route_departure ds hwf p k L B W hal hf hmw hmt R

/-- **C12 in full for route queries** of either time type, under the range conditions of that type -/
theorem C12_full_route (ds : Dataset) (hwf : WFData ds) (p : Params) (k L B W : Int) (hal : TripsAligned ds)
    (hmw : 0 ≤ p.minWait) (hmt : 0 ≤ p.maxTransfer)
    (R : (p.forward = true ∧ RouteFwdRange ds p k L B W) ∨ (p.forward = false ∧ RouteRevRange ds p k L B W)) :
    calculateSingle0 (shiftDs k ds) (shiftP k p) = shRouteOut k (calculateSingle0 ds p) := by
  rcases R with ⟨hf, R⟩ | ⟨hf, R⟩
  · exact C12_full_route_departure ds hwf p k L B W hal hf hmw hmt R
  · exact C12_full_route_arrival ds hwf p k L B W hal hf hmw hmt R

/-- non-vacuity of `RouteFwdRange`, for an offset that moves the request across an hour mark; the two routes are shifted copies -/
theorem nv_full_route_departure :
    RouteFwdRange nvDs' nvFwd' 1700 600 100000 60 ∧
    (match calculateSingle nvDs' nvFwd', calculateSingle (shiftDs 1700 nvDs') (shiftP 1700 nvFwd') with
      | .ok r, .ok r' => decide (shRoute 1700 r = r') && decide (r.steps.length = 4)
      | _, _ => false) = true := by
  refine ⟨⟨by decide, by decide, by decide, by decide, by decide, by decide, by decide, footOf_time_le _ 60 (by decide),
    rfootOf_time_le _ 60 (by decide), ?_, ?_, by decide, by decide, by decide, by decide⟩, by decide⟩
  · unfold ConnsLe; decide
  · unfold ConnsGe; decide

end Tr
