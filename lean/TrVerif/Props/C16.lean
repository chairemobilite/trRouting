/-
  Property C16 — data loaded from cache files routes like the dataset they encode.

  The model's `Dataset` is the record-level content of the cache files (trips with per-stop
  times and flags, paths with stop order, footpaths, lines, scenarios).  What the loaders and
  `TransitData` build from those records - connections, sorted lists, per-trip lists, reverse
  footpaths - is the model's data layer.  Proved here: that data layer means what C16 says the
  files encode.  That the loaders' code (`Model/Load.lean`) builds this data layer from the
  records is `Props/C16Load.lean`.  NOT modelled: the bytes (Cap'n Proto decoding is trusted
  base); the real loaders on real files are compared with the model loader (check/loader_corr.py)
  and, through the server's answers on generated cache directories, with the in-memory
  calculation and the model (check/http_checks.py C16).
-/
import TrVerif.Proofs.DataWF
import TrVerif.Generated.Tables
namespace Tr

/-- **connections of a trip**: one per consecutive stop pair; the i-th leaves stop i of the path
    at the trip's i-th departure time, reaches stop i+1 at the (i+1)-th arrival time, may be
    boarded / alighted as the flags of those two stops say, and carries sequence number i+1 -/
theorem C16_connections (ds : Dataset) (tr : TripRec) :
    (ds.tripConns tr).length = tr.arr.length - 1 ∧
    ∀ (i : Nat) (hi : i < (ds.tripConns tr).length),
      (ds.tripConns tr)[i] =
        { depStop := (ds.paths.getD tr.path default).stops.getD i 0,
          arrStop := (ds.paths.getD tr.path default).stops.getD (i + 1) 0,
          dep := tr.dep.getD i 0, arr := tr.arr.getD (i + 1) 0, trip := tr.id, seq := i + 1,
          canBoard := tr.cb.getD i true, canUnboard := tr.cu.getD (i + 1) true,
          minWait := ds.lineMinWait tr } :=
  ⟨tripConns_length ds tr, tripConns_getElem ds tr⟩

/-- **reverse footpaths** are exactly the footpaths read backwards -/
theorem C16_reverse_footpaths (ds : Dataset) (y z : Nat) (t d : Int) :
    (⟨y, t, d⟩ : NTD) ∈ ds.rfootOf z ↔ (⟨z, t, d⟩ : NTD) ∈ ds.footOf y := by
  -- both sides say that the footpath record `⟨y, z, t, d⟩` is in the file
  simp only [Dataset.rfootOf, Dataset.footOf, List.mem_filterMap, Option.ite_none_right_eq_some, Option.some.injEq, NTD.mk.injEq]
  constructor <;> rintro ⟨f, hf, h1, h2, h3, h4⟩ <;> exact ⟨f, hf, h2, h1, h3, h4⟩

/-- **the two global lists** hold exactly the connections of all trips, in the order of the two
    comparators of `transit_data.cpp` (departure / trip / sequence ascending; arrival / trip /
    sequence descending) -/
theorem C16_sorted_lists (ds : Dataset) :
    (∀ c, c ∈ ds.fwdAll ↔ c ∈ ds.conns) ∧ (∀ c, c ∈ ds.revAll ↔ c ∈ ds.conns) ∧
    ds.fwdAll.Pairwise (fun a b => fwdLt b a = false) ∧ ds.revAll.Pairwise (fun a b => revLt b a = false) :=
  ⟨fun c => mem_isort fwdLt c _, fun c => mem_isort revLt c _,
   sorted_isort fwdLt fwdLt_strictWeak _, sorted_isort revLt revLt_strictWeak _⟩

/-- **per-trip lists** (`Trip::forwardConnections` / `reverseConnections`) of a well-formed
    dataset: the trip's connections in hop order / in reverse hop order -/
theorem C16_trip_lists {ds : Dataset} (h : WFData ds) {tr : TripRec} (htr : tr ∈ ds.trips) :
    ds.tripFwd tr.id = ds.tripConns tr ∧ ds.tripRev tr.id = (ds.tripConns tr).reverse :=
  ⟨tripFwd_eq h.toWFSchedule htr (h.depMono tr htr), tripRev_eq h.toWFSchedule htr⟩

/-- **a scenario's connection set**: the connections of the trips the scenario admits, in the
    order of the global lists, with both hour indexes built from exactly those lists -/
theorem C16_scenario_set (ds : Dataset) (sc : Scenario) :
    (ds.connSetOf sc).fwd = ds.fwdAll.filter (fun c => ds.tripEnabled sc c.trip) ∧
    (ds.connSetOf sc).rev = ds.revAll.filter (fun c => ds.tripEnabled sc c.trip) ∧
    (ds.connSetOf sc).fwdIdx = fwdIndex (ds.connSetOf sc).fwd ∧
    (ds.connSetOf sc).revIdx = revIndex (ds.connSetOf sc).rev :=
  ⟨rfl, rfl, rfl, rfl⟩

/-- **the comparators of the two stable sorts, re-read from the source on every run**: the keys and
    directions of the model's `fwdLt` / `revLt`, which `C16_sorted_lists` is about.  (Two
    connections of one trip can tie in time - consecutive stops served in the same second - and
    then only the sequence number orders them.) -/
theorem C16_comparators :
    Gen.fwdSortKeys = [("getDepartureTime()", "<"), ("getTrip().uuid", "<"), ("getSequenceInTrip()", "<")] ∧
    Gen.revSortKeys = [("getArrivalTime()", ">"), ("getTrip().uuid", ">"), ("getSequenceInTrip()", ">")] := ⟨rfl, rfl⟩

end Tr
