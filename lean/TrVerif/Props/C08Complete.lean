/-
  Property C08, the completeness half: every stop that can be reached within max_travel_time is
  listed, with a time no later than any way of reaching it. With `C08_sound` (every listed time IS
  a way of reaching the stop): the listed stops are exactly the reachable ones and nodeTime is the
  earliest alighting time.

  Domain: well-formed data, every hop takes positive time (`PosHops`: the
  property's own domain, DESIGN 6 C03/C08 - with zero-duration hops and no minimum waiting the scan
  order can miss a same-instant change), the first-waiting cap disabled (the property says so),
  non-negative access walks, the router lists each stop once, every stop has its zero self
  footpath, minimum waiting time and transfer maximum are not negative, alighting stops of the
  timetable are stops of the data (`StopsInRange`), departures fit the integer type of the tables (`TimesBounded`), request
  inside the clock range [0, 32 h).
-/
import TrVerif.Proofs.ForwardComplete
import TrVerif.Props.C07Data
import TrVerif.Proofs.HourIndex
namespace Tr

theorem Reach.restrict {cx : Ctx} {L P : List Conn} (w : FW cx L)
    (hP : ∀ a ∈ L, cx.depT ≤ a.dep → a ∈ P) {y : Nat} {t : Int} (h : Reach cx L y t) : Reach cx P y t :=
  h.sub w (fun _ ha => ha) fun a ha hd _ => hP a ha (by have : 0 ≤ cx.minAccess := minTime_nonneg _ w.accNonneg; omega)

theorem ride_scanned_fwd {cx : Ctx} {L P : List Conn} (w : FW cx L) (hPL : ∀ a ∈ P, a ∈ L)
    (hP : ∀ a ∈ L, cx.depT ≤ a.dep → a ∈ P) {e x : Conn} (he : e ∈ L) (hx : x ∈ L) (hb : BoardP cx L e)
    (ht : e.trip = x.trip) (hs : e.seq ≤ x.seq) :
    e ∈ P ∧ x ∈ P ∧ BoardP cx P e ∧ cx.depT ≤ e.dep ∧ e.dep ≤ x.dep ∧ x.dep < x.arr := by
  obtain ⟨hcb, hdis, t, hr, hrt⟩ := hb
  have hrP := hr.restrict w hP
  have hge := hrP.time_ge w hPL
  have hmin : 0 ≤ cx.minAccess := minTime_nonneg cx.accessFoot w.accNonneg
  have hwe := effWait_nonneg e cx.p.minWait w.mw
  have hdm := w.depMono e he x hx ht hs
  exact ⟨hP e he (by omega), hP x hx (by omega), ⟨hcb, hdis, t, hrP, hrt⟩, by omega, hdm, w.posHop x hx⟩

theorem fwdScan_FC {cx : Ctx} (w : FW cx cx.cs.fwd) (hs : SortedFwd cx.cs.fwd) (start : Nat) :
    FC cx (cx.cs.fwd.drop start) (fwdScan cx false start) :=
  fwdScanList_FC w (cx.cs.fwd.drop start) [] (FState.init cx) (fun _ ha => List.mem_of_mem_drop ha)
    (hs.sublist (List.drop_sublist _ _)) (init_FC cx w.accNodup)

theorem forwardNode_complete {cx : Ctx} {s : FState} {node : Nat} {b : Int} (he : EgrLe s node b)
    (hb : b - cx.depT ≤ cx.p.maxTotal) (hsound : ∀ y js, s.egr y = some js → ∃ e x, js.enter = some e ∧ js.exit = some x)
    {o : Option AccNode} (h : forwardNode cx s node = .ok o) : ∃ a, o = some a ∧ a.stop = node ∧ a.nodeTime ≤ b := by
  obtain ⟨js, x, hj, hx, hxb⟩ := he
  obtain ⟨e, x', he', hx'⟩ := hsound node js hj
  rw [hx] at hx'; cases hx'
  unfold forwardNode at h
  rw [hj] at h
  simp only at h
  cases hch : fwdChain cx.ds s.steps (cx.ds.nStops + 2) js (-1) with
  | none => rw [hch] at h; cases h
  | some nt =>
    rw [hch] at h
    simp only [he', hx] at h
    rw [if_pos (by omega)] at h
    simp only [Outcome.ok.injEq] at h
    exact ⟨_, h.symm, rfl, hxb⟩

def SelfFootArr (ds : Dataset) : Prop := ∀ c ∈ ds.conns, ∃ d, (⟨c.arrStop, c.arrStop, 0, d⟩ : Foot) ∈ ds.foot

theorem FW_dataset' {ds : Dataset} (hwf : WFData ds) (p : Params) (hmw : 0 ≤ p.minWait) (hmt : 0 ≤ p.maxTransfer)
    (hpos : PosHops ds) (hself : SelfFootArr ds) (hcap : p.maxFirstWait ≤ 0) (hacc : ∀ a ∈ ds.access, 0 ≤ a.time)
    (hand : (ds.access.map (·.stop)).Nodup) (egr : List NTD) (dT aT : Int) :
    FW (mkCtx (ds.restrict (ds.connSetOf (ds.scenarioOf p))) p (ds.connSetOf (ds.scenarioOf p))
        (routerLookup ds.access p.maxAccess) egr dT aT) (ds.connSetOf (ds.scenarioOf p)).fwd := by
  have hsub := connSetOf_rev_sub ds (ds.scenarioOf p)
  have hfr := connSetOf_fwd_mem_rev ds (ds.scenarioOf p)
  have hw := timeWF_dataset hwf p hmw hmt (ds.scenarioOf p) (routerLookup ds.access p.maxAccess) egr dT aT
  refine ⟨?_, ?_, ?_, ?_, ?_, ?_, hmw, ?_, ?_, hcap⟩
  · intro c hc; exact hpos c (hsub c (hfr c hc))
  · intro a ha b hb; exact hw.depMono a (hfr a ha) b (hfr b hb)
  · intro a ha b hb; exact hw.arrMono a (hfr a ha) b (hfr b hb)
  · intro a ha b hb; exact conns_unique hwf.toWFSchedule a (hsub a (hfr a ha)) b (hsub b (hfr b hb))
  · intro z f hf
    exact hwf.footNonneg _ (footOf_mem (ds := ds.restrict (ds.connSetOf (ds.scenarioOf p))) hf)
  · intro c hc
    obtain ⟨d, hd⟩ := hself c (hsub c (hfr c hc))
    exact ⟨⟨c.arrStop, 0, d⟩, List.mem_filterMap.mpr ⟨_, hd, by simp⟩, rfl, hmt⟩
  · intro a ha; exact hacc a (List.mem_filter.mp ha).1
  · exact routerLookup_nodup _ _ hand

theorem FW_dataset {ds : Dataset} (hwf : WFData ds) (p : Params) (hmw : 0 ≤ p.minWait) (hmt : 0 ≤ p.maxTransfer)
    (hpos : PosHops ds) (hself : SelfFootArr ds) (hcap : p.maxFirstWait ≤ 0) (hacc : ∀ a ∈ ds.access, 0 ≤ a.time)
    (hand : (ds.access.map (·.stop)).Nodup) :
    FW (mkCtx (ds.restrict (ds.connSetOf (ds.scenarioOf p))) p (ds.connSetOf (ds.scenarioOf p))
        (routerLookup ds.access p.maxAccess) [] p.time (-1)) (ds.connSetOf (ds.scenarioOf p)).fwd :=
  FW_dataset' hwf p hmw hmt hpos hself hcap hacc hand [] p.time (-1)

/-- **C08 (completeness half).** -/
theorem C08_complete (ds : Dataset) (hwf : WFData ds) (p : Params) (hp : p.forward = true) (hmw : 0 ≤ p.minWait)
    (hmt : 0 ≤ p.maxTransfer) (hb : TimesBounded ds) (hpos : PosHops ds) (hself : SelfFootArr ds) (hrange : StopsInRange ds)
    (hcap : p.maxFirstWait ≤ 0) (hacc : ∀ a ∈ ds.access, 0 ≤ a.time) (hand : (ds.access.map (·.stop)).Nodup)
    (h0 : 0 ≤ p.time) (ht : p.time < (HOUR_END : Int) * 3600)
    {l : List AccNode} {n : Nat} (h : calculateAllNodes ds p = .ok (l, n)) :
    ∀ e ∈ (ds.connSetOf (ds.scenarioOf p)).fwd, ∀ x ∈ (ds.connSetOf (ds.scenarioOf p)).fwd,
      BoardP (mkCtx (ds.restrict (ds.connSetOf (ds.scenarioOf p))) p (ds.connSetOf (ds.scenarioOf p))
        (routerLookup ds.access p.maxAccess) [] p.time (-1)) (ds.connSetOf (ds.scenarioOf p)).fwd e →
      e.trip = x.trip → e.seq ≤ x.seq → x.canUnboard = true → x.arr - p.time ≤ p.maxTotal →
      ∃ a ∈ l, a.stop = x.arrStop ∧ a.nodeTime ≤ x.arr := by
  intro e he x hx hboard htrip hseq hcu hxa
  obtain ⟨start, hstart, rfl, hcoll⟩ := calculateAllNodes_fwd hp h
  have w : FW (accCtx ds p) (accCtx ds p).cs.fwd := FW_dataset hwf p hmw hmt hpos hself hcap hacc hand
  -- the ride lies in the scanned range, where the completeness invariant has its alighting recorded
  obtain ⟨heP, hxP, hbP, _, _, hph⟩ := ride_scanned_fwd w (fun _ ha => List.mem_of_mem_drop ha)
    (fun a ha hd => mem_drop_start_fwd (cs := (accCtx ds p).cs) rfl h0 ht hstart ha hd) he hx hboard htrip hseq
  have hegr := (fwdScan_FC w (connSetOf_sortedFwd ds _) start).egr e heP x hxP hbP htrip hseq hcu
    (by show x.arr ≤ p.time + p.maxTotal; omega)
  have hxr : x.arrStop ∈ List.range ds.nStops :=
    List.mem_range.mpr (hrange x (connSetOf_rev_sub ds _ x (connSetOf_fwd_mem_rev ds _ x hx)))
  obtain ⟨o, hfo, hol⟩ := (collectNodes_all _ _ _ _ hcoll).2 x.arrStop hxr
  -- recorded alightings carry both connections (soundness invariant)
  obtain ⟨a, hoa, has, hat⟩ := forwardNode_complete hegr (by show x.arr - p.time ≤ p.maxTotal; exact hxa)
    (fun y js hj => by
      obtain ⟨e', x', h1, h2, _⟩ := (accScan_FInv hwf p hmw hmt hb start).egr y js hj
      exact ⟨e', x', h1, h2⟩) hfo
  exact ⟨a, hol a hoa, has, hat⟩

/-- **C08 (earliest).** The listed nodeTime of a stop is no later than ANY alighting of a boardable ride at that
    stop within max_travel_time. -/
theorem C08_earliest (ds : Dataset) (hwf : WFData ds) (p : Params) (hp : p.forward = true) (hmw : 0 ≤ p.minWait)
    (hmt : 0 ≤ p.maxTransfer) (hb : TimesBounded ds) (hpos : PosHops ds) (hself : SelfFootArr ds) (hrange : StopsInRange ds)
    (hcap : p.maxFirstWait ≤ 0) (hacc : ∀ a ∈ ds.access, 0 ≤ a.time) (hand : (ds.access.map (·.stop)).Nodup)
    (h0 : 0 ≤ p.time) (ht : p.time < (HOUR_END : Int) * 3600)
    {l : List AccNode} {n : Nat} (h : calculateAllNodes ds p = .ok (l, n)) :
    ∀ a ∈ l, ∀ e ∈ (ds.connSetOf (ds.scenarioOf p)).fwd, ∀ x ∈ (ds.connSetOf (ds.scenarioOf p)).fwd,
      BoardP (mkCtx (ds.restrict (ds.connSetOf (ds.scenarioOf p))) p (ds.connSetOf (ds.scenarioOf p))
        (routerLookup ds.access p.maxAccess) [] p.time (-1)) (ds.connSetOf (ds.scenarioOf p)).fwd e →
      e.trip = x.trip → e.seq ≤ x.seq → x.canUnboard = true → x.arr - p.time ≤ p.maxTotal → x.arrStop = a.stop →
      a.nodeTime ≤ x.arr := by
  intro a ha e he x hx hboard htrip hseq hcu hxa hstop
  obtain ⟨a', ha', hs', ht'⟩ := C08_complete ds hwf p hp hmw hmt hb hpos hself hrange hcap hacc hand h0 ht h e he x hx hboard htrip hseq hcu hxa
  have hsorted := (C08_sound ds hwf p hp hmw hmt hb h).2.1
  have : a' = a := same_stop_eq hsorted ha' ha (by rw [hs', hstop])
  rw [← this]; exact ht'

end Tr
