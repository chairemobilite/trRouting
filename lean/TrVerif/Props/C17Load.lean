/-
  Props/C17Load — what the record-level loader model (`Model/Load.lean`) guarantees for EVERY
  cache content: any records, any references, any array lengths, any files missing.

  Each guarantee is an invariant of the tables that every update call preserves (`loadFrom_inv`;
  `applyCall_snd` says which table a call replaces): no unchecked out-of-range read and no connection
  that arrives before it departs (`SchedOK`: the only unchecked read of the loaders, `path.nodesRef[i]`,
  is kept in range by the trip validation), no footpath with a negative time (`NodesOK`), and a table
  whose file is missing stays empty, so the status is not READY.
-/
import TrVerif.Props.C17
import TrVerif.Proofs.LoadMaps
namespace Tr.Load

theorem connLoop_val (trip : Nat) (mw : Int) (nodes : List Nat) (t : TripR) (hn : t.arr.length ≤ nodes.length)
    (hd : t.arr.length ≤ t.dep.length) (hb : t.arr.length ≤ t.cb.length) (hu : t.arr.length ≤ t.cu.length) :
    ∀ (n i : Nat), i + n + 1 ≤ t.arr.length →
      ∃ cs, connLoop trip mw nodes t i n = .val cs ∧ ∀ c ∈ cs, ∃ j, t.dep[j]? = some c.dep ∧ t.arr[j+1]? = some c.arr
  | 0, _, _ => ⟨[], rfl, by simp⟩
  | n+1, i, ha => by
    obtain ⟨cs, hcs, hall⟩ := connLoop_val trip mw nodes t hn hd hb hu n (i+1) (by omega)
    -- all six reads are in range; the connection built from them is left to unification
    refine ⟨_ :: cs, by simp (disch := omega) only [connLoop, List.getElem?_eq_getElem, hcs]; rfl, fun c hc => ?_⟩
    rcases List.mem_cons.1 hc with rfl | hc
    · exact ⟨i, List.getElem?_eq_getElem _, List.getElem?_eq_getElem _⟩
    · exact hall c hc

theorem tripCountsOk_spec {t : TripR} {p : LPath} (h : tripCountsOk t p = true) :
    2 ≤ t.arr.length ∧ t.arr.length ≤ p.nodes.length ∧ t.arr.length ≤ t.dep.length ∧
    t.arr.length ≤ t.cb.length ∧ t.arr.length ≤ t.cu.length := by
  simp only [tripCountsOk, Bool.not_eq_true', Bool.or_eq_false_iff, decide_eq_false_iff_not] at h
  omega

/-- the guard is what keeps the unchecked read in range: a trip record with three times on a path of
    two stops, fed to the connection loop WITHOUT the validation, reaches `ub` -/
theorem C17_guard_needed :
    (match connLoop 7 (-1) [1, 2] ⟨.id 7, .id 5, [10, 20, 30], [11, 21, 31], [1, 1, 1], [1, 1, 1]⟩ 0 2 with
      | .ub => true | _ => false) = true := by decide

/-- and the validation rejects exactly that record -/
theorem C17_guard_rejects :
    tripCountsOk ⟨.id 7, .id 5, [10, 20, 30], [11, 21, 31], [1, 1, 1], [1, 1, 1]⟩ ⟨4, [1, 2], []⟩ = false := by decide

theorem goesBack_spec : ∀ (arr dep : List Int), goesBack arr dep = false →
    ∀ j, ∀ a d, arr[j+1]? = some a → dep[j]? = some d → d ≤ a
  | _ :: a1 :: as, d0 :: ds, hg, j, a, d, ha, hd => by
    simp only [goesBack, Bool.or_eq_false_iff, decide_eq_false_iff_not] at hg
    cases j with
    | zero =>
      simp only [List.getElem?_cons_succ, List.getElem?_cons_zero, Option.some.injEq] at ha hd
      omega
    | succ j => exact goesBack_spec (a1 :: as) ds hg.2 j a d ha hd
  | [], _, _, _, _, _, ha, _ => by simp at ha
  | [_], _, _, _, _, _, ha, _ => by simp at ha
  | _ :: _ :: _, [], _, _, _, _, _, hd => by simp at hd

def SchedOK (ub : Bool) (conns : List LConn) : Prop := ub = false ∧ ∀ c ∈ conns, c.dep ≤ c.arr

theorem connLoop_guarded {t : TripR} {p : LPath} (hc : tripCountsOk t p = true) (hb : goesBack t.arr t.dep = false)
    (k : Nat) (mw : Int) : ∃ cs, connLoop k mw p.nodes t 0 (t.arr.length - 1) = .val cs ∧ ∀ c ∈ cs, c.dep ≤ c.arr := by
  obtain ⟨h2, hn, hd, hcb, hcu⟩ := tripCountsOk_spec hc
  obtain ⟨cs, hcs, hall⟩ := connLoop_val k mw p.nodes t hn hd hcb hcu (t.arr.length - 1) 0 (by omega)
  refine ⟨cs, hcs, fun c hc' => ?_⟩
  obtain ⟨j, hdep, harr⟩ := hall c hc'
  exact goesBack_spec _ _ hb j c.arr c.dep harr hdep

theorem fileLoop_ok (line : Nat) (ll : LLine) (services : Map Unit) (paths : Map LPath)
    (items : List LItem) (svc : Option Nat) (s : Sch) (h : SchedOK s.ub s.conns) :
    SchedOK (fileLoop line ll services paths items svc s).2.ub (fileLoop line ll services paths items svc s).2.conns := by
  -- the branches of `fileLoop` in its order: end of file (1), period (2), schedule with a bad uuid, a known, an unknown
  -- service (3-5), trip with an unknown path (6), trip rejected by either guard (7-8), connections stored (9), `connLoop`
  -- left by `kj` (10) or by `ub` (11: excluded by the guards), trip outside a schedule or with a bad uuid (12)
  fun_induction fileLoop line ll services paths items svc s
  case case1 => exact h
  case case2 ih => exact ih h
  case case3 => exact h
  case case4 ih => exact ih h
  case case5 => exact h
  case case6 => exact h
  case case7 ih => exact ih h
  case case8 ih => exact ih h
  case case9 hc hb _ _ cs heq ih =>
    obtain ⟨cs', e, hcs⟩ := connLoop_guarded (by simpa using hc) (by simpa using hb) _ _
    cases e.symm.trans heq
    exact ih ⟨h.1, List.forall_mem_append.2 ⟨h.2, hcs⟩⟩
  case case10 => exact h
  case case11 hc hb _ _ heq =>
    obtain ⟨cs', e, _⟩ := connLoop_guarded (by simpa using hc) (by simpa using hb) _ _
    cases e.symm.trans heq
  case case12 => exact h

theorem schedLoop_ok (files : List (Nat × Option (List LItem))) (services : Map Unit) (paths : Map LPath) :
    ∀ (lines : Map LLine) (s : Sch), SchedOK s.ub s.conns →
      SchedOK (schedLoop files services paths lines s).ub (schedLoop files services paths lines s).conns
  | [], _, h => h
  | (k, ll) :: ls, s, h => by
    rw [schedLoop]
    split
    · exact schedLoop_ok files services paths ls s h
    · exact schedLoop_ok files services paths ls s h
    · exact schedLoop_ok files services paths ls _ (fileLoop_ok _ _ _ _ _ _ _ h)

theorem applyCall_snd (d : Disk) (fn : String) (td : TD) :
    (applyCall d fn td).2 =
      { agencies := if fn = "updateAgencies" then (getIds d.agencies).2 else td.agencies,
        services := if fn = "updateServices" then (getIds d.services).2 else td.services,
        nodes := if fn = "updateNodes" then (getNodes d).2 else td.nodes,
        lines := if fn = "updateLines" then (getLines d td.agencies).2 else td.lines,
        paths := if fn = "updatePaths" then (getPaths d td.lines td.nodes).2 else td.paths,
        scenarios := if fn = "updateScenarios" then
          (getScenarios d ⟨td.services.has, td.lines.has, td.agencies.has, td.nodes.has⟩).2 else td.scenarios,
        trips := if fn = "updateSchedules" then (schedLoop d.lineFiles td.services td.paths td.lines {}).trips else td.trips,
        conns := if fn = "updateSchedules" then (schedLoop d.lineFiles td.services td.paths td.lines {}).conns else td.conns,
        ub := if fn = "updateSchedules" then td.ub || (schedLoop d.lineFiles td.services td.paths td.lines {}).ub else td.ub } := by
  by_cases h : fn ∈ ["updateNodes", "updateAgencies", "updateServices", "updateLines", "updatePaths", "updateScenarios", "updateSchedules"]
  · simp only [List.mem_cons, List.not_mem_nil, or_false] at h
    rcases h with rfl | rfl | rfl | rfl | rfl | rfl | rfl <;> simp only [applyCall, String.reduceEq, if_true, if_false]
  · simp only [List.mem_cons, List.not_mem_nil, or_false, not_or] at h
    simp only [applyCall, h, if_false]

theorem loadFrom_inv (d : Disk) (P : TD → Prop) (hstep : ∀ fn td, P td → P (applyCall d fn td).2) :
    ∀ (calls : List (String × Bool)) (td : TD), P td → P (loadFrom d calls td)
  | [], _, h => h
  | (fn, tol) :: cs, td, h => by
    rw [loadFrom]
    split
    · exact hstep fn td h
    · exact loadFrom_inv d P hstep cs _ (hstep fn td h)

theorem loadAll_schedOK (d : Disk) : SchedOK (loadAll d).ub (loadAll d).conns := by
  refine loadFrom_inv d (fun td => SchedOK td.ub td.conns) (fun fn td h => ?_) _ _ ⟨rfl, by simp⟩
  rw [applyCall_snd]
  show SchedOK (if _ then _ else _) (if _ then _ else _)
  split
  · have hs := schedLoop_ok d.lineFiles td.services td.paths td.lines {} ⟨rfl, by simp⟩
    exact ⟨by rw [h.1, hs.1]; rfl, hs.2⟩
  · exact h

/-- **C17 (loader, all contents)**: loading never performs an unchecked out-of-range access -/
theorem C17_no_ub (d : Disk) : (loadAll d).ub = false :=
  (loadAll_schedOK d).1

/-- **C17 (loader, all contents)**: no loaded connection arrives before it departs -/
theorem C17_conn_forward (d : Disk) : ∀ c ∈ (loadAll d).conns, c.dep ≤ c.arr :=
  (loadAll_schedOK d).2

def NodeOK (n : LNode) : Prop := (∀ e ∈ n.foot, 0 ≤ e.time) ∧ (∀ e ∈ n.rfoot, 0 ≤ e.time)
def NodesOK (m : Map LNode) : Prop := ∀ p ∈ m, NodeOK p.2

theorem nodesOK_modify (m : Map LNode) (k : Nat) (f : LNode → LNode) (h : NodesOK m) (hf : ∀ n, NodeOK n → NodeOK (f n)) :
    NodesOK (m.modify k f) := by
  intro p hp
  obtain ⟨q, hq, rfl⟩ := List.mem_map.1 hp
  split
  · exact hf _ (h q hq)
  · exact h q hq

theorem nodeOK_rfoot {n : LNode} {e : NTDu} (he : 0 ≤ e.time) (hn : NodeOK n) : NodeOK { n with rfoot := n.rfoot ++ [e] } :=
  ⟨hn.1, List.forall_mem_append.2 ⟨hn.2, List.forall_mem_singleton.2 he⟩⟩

theorem nodesCollLoop_ok (us : List UTok) (m : Map LNode) (h : NodesOK m) : NodesOK (nodesCollLoop us m).2 := by
  fun_induction nodesCollLoop us m
  case case1 => exact h
  case case2 => exact h
  case case3 ih =>
    refine ih fun p hp => ?_
    rcases Map.mem_emplace _ _ _ _ hp with hp | rfl
    · exact h p hp
    · exact ⟨by simp, by simp⟩

theorem footLoop_ok (k : Nat) (us : List UTok) (ts ds : List Int) (acc : List NTDu) (m : Map LNode)
    (ha : ∀ e ∈ acc, 0 ≤ e.time) (hm : NodesOK m) :
    (∀ e ∈ (footLoop k us ts ds acc m).2.1, 0 ≤ e.time) ∧ NodesOK (footLoop k us ts ds acc m).2.2 := by
  -- end of the list (1), bad uuid (2), unknown stop skipped (3), negative time skipped (4), entry stored (5), arrays too short (6)
  fun_induction footLoop k us ts ds acc m
  case case1 => exact ⟨ha, hm⟩
  case case2 => exact ⟨ha, hm⟩
  case case3 ih => exact ih ha hm
  case case4 ih => exact ih ha hm
  case case5 hneg ih =>
    have ht := Int.not_lt.1 hneg
    exact ih (List.forall_mem_append.2 ⟨ha, List.forall_mem_singleton.2 ht⟩) (nodesOK_modify _ _ _ hm fun n => nodeOK_rfoot ht)
  case case6 => exact ⟨ha, hm⟩

theorem nodeLoop_ok (files : List (Nat × Option NodeFile)) (ks : List Nat) (m : Map LNode) (h : NodesOK m) :
    NodesOK (nodeLoop files ks m).2 := by
  -- end of the keys (1), no file (2), unreadable file (3), arrays too short (4), `footLoop` left by an exception (5) or done (6)
  fun_induction nodeLoop files ks m with
  | case1 => exact h
  | case2 _ _ _ _ ih => exact ih h
  | case3 => exact h
  | case4 => exact h
  | case5 k _ ts f _ _ acc ts' heq =>
    have := footLoop_ok k f.uuids f.times f.dists [] ts (by simp) h
    rw [heq] at this; exact this.2
  | case6 k _ ts f _ _ acc ts' heq ih =>
    have := footLoop_ok k f.uuids f.times f.dists [] ts (by simp) h
    rw [heq] at this
    -- the node's own entry `⟨k, 0, 0⟩` closes its reverse list
    exact ih (nodesOK_modify _ _ _ this.2 fun n hn => ⟨this.1, (nodeOK_rfoot (Int.le_refl 0) hn).2⟩)

theorem getNodes_ok (d : Disk) : NodesOK (getNodes d).2 := by
  have h0 : NodesOK (nodesCollLoop d.nodes.2 []).2 := nodesCollLoop_ok _ _ (fun _ h => nomatch h)
  unfold getNodes
  split
  · exact fun _ h => nomatch h
  · exact fun _ h => nomatch h
  · split
    · rename_i heq
      rw [heq] at h0
      exact nodeLoop_ok _ _ _ h0
    · rename_i heq
      rw [heq] at h0; exact h0

/-- **C17**: no loaded footpath (either direction) takes a negative time -/
theorem C17_foot_nonneg (d : Disk) : NodesOK (loadAll d).nodes := by
  refine loadFrom_inv d (fun td => NodesOK td.nodes) (fun fn td h => ?_) _ _ (fun _ h => nomatch h)
  rw [applyCall_snd]
  show NodesOK (if _ then _ else _)
  split
  · exact getNodes_ok d
  · exact h

theorem TD.status_ready_iff (td : TD) :
    td.status = "READY" ↔ td.agencies ≠ [] ∧ td.services ≠ [] ∧ td.nodes ≠ [] ∧ td.lines ≠ [] ∧ td.paths ≠ [] ∧
      td.scenarios ≠ [] ∧ td.trips ≠ [] :=
  (statusOfCounts_ready_iff Gen.dataStatusOrder td.count order_never_ready).trans (by
    simp [Gen.dataStatusOrder, TD.count, List.length_eq_zero_iff])

theorem getIds_missing (f : FSt × List UTok) (h : f.1 = .missing) : (getIds f).2 = [] := by
  unfold getIds; rw [h]
theorem getNodes_missing (d : Disk) (h : d.nodes.1 = .missing) : (getNodes d).2 = [] := by
  unfold getNodes; rw [h]
theorem getLines_missing (d : Disk) (a) (h : d.lines.1 = .missing) : (getLines d a).2 = [] := by
  unfold getLines; rw [h]
theorem getPaths_missing (d : Disk) (a b) (h : d.paths.1 = .missing) : (getPaths d a b).2 = [] := by
  unfold getPaths; rw [h]
theorem getScenarios_missing (d : Disk) (a) (h : d.scenarios.1 = .missing) : (getScenarios d a).2 = [] := by
  unfold getScenarios; rw [h]

theorem schedLoop_nofiles (services : Map Unit) (paths : Map LPath) : ∀ (lines : Map LLine) (s : Sch),
    schedLoop [] services paths lines s = s
  | [], _ => rfl
  | (k, ll) :: ls, s => by rw [schedLoop]; exact schedLoop_nofiles services paths ls s

theorem loadAll_nil {α} (d : Disk) (get : TD → List α) (h0 : get {} = [])
    (h : ∀ fn td, get td = [] → get (applyCall d fn td).2 = []) : get (loadAll d) = [] :=
  loadFrom_inv d (get · = []) h _ _ h0

/-- **C17**: if a collection file the routing needs is absent (or there is no per-line schedule file at
    all), the data status after start-up is not READY, whatever the other files contain. -/
theorem C17_missing_not_ready (d : Disk)
    (h : d.agencies.1 = .missing ∨ d.services.1 = .missing ∨ d.nodes.1 = .missing ∨ d.lines.1 = .missing ∨
         d.paths.1 = .missing ∨ d.scenarios.1 = .missing ∨ d.lineFiles = []) :
    (loadAll d).status ≠ "READY" := by
  intro hr
  obtain ⟨a, s, n, l, p, c, t⟩ := (TD.status_ready_iff _).1 hr
  -- the table of the missing file is emptied again by its own call and untouched by the others
  rcases h with h | h | h | h | h | h | h
  · exact a (loadAll_nil d (·.agencies) rfl fun fn td ht => by rw [applyCall_snd]; exact ite_nil (getIds_missing _ h) ht)
  · exact s (loadAll_nil d (·.services) rfl fun fn td ht => by rw [applyCall_snd]; exact ite_nil (getIds_missing _ h) ht)
  · exact n (loadAll_nil d (·.nodes) rfl fun fn td ht => by rw [applyCall_snd]; exact ite_nil (getNodes_missing _ h) ht)
  · exact l (loadAll_nil d (·.lines) rfl fun fn td ht => by rw [applyCall_snd]; exact ite_nil (getLines_missing _ _ h) ht)
  · exact p (loadAll_nil d (·.paths) rfl fun fn td ht => by rw [applyCall_snd]; exact ite_nil (getPaths_missing _ _ _ h) ht)
  · exact c (loadAll_nil d (·.scenarios) rfl fun fn td ht => by rw [applyCall_snd]; exact ite_nil (getScenarios_missing _ _ h) ht)
  · exact t (loadAll_nil d (·.trips) rfl fun fn td ht => by rw [applyCall_snd]; exact ite_nil (by rw [h, schedLoop_nofiles]) ht)

theorem C17_ready_all_nonempty (d : Disk) (h : (loadAll d).status = "READY") :
    (loadAll d).agencies ≠ [] ∧ (loadAll d).services ≠ [] ∧ (loadAll d).nodes ≠ [] ∧ (loadAll d).lines ≠ [] ∧
    (loadAll d).paths ≠ [] ∧ (loadAll d).scenarios ≠ [] ∧ (loadAll d).trips ≠ [] :=
  (TD.status_ready_iff _).1 h

/-- the guards of the source, as the translator extracts them, are the five the model's `tripCountsOk` tests and the two
    size tests of `nodeLoop`; the Connection is built from the indices `connLoop` reads -/
theorem C17_validation_source :
    Gen.tripValidation = ["tripNodeTimesCount < 2", "tripNodeTimesCount > path.nodesRef.size()",
      "capnpTrip.getNodeDepartureTimesSeconds().size() < tripNodeTimesCount",
      "capnpTrip.getNodesCanBoard().size() < tripNodeTimesCount",
      "capnpTrip.getNodesCanUnboard().size() < tripNodeTimesCount"] ∧
    Gen.nodeFileValidation = ["capnpT.getTransferableNodesTravelTimes().size() < transferableNodesCount",
      "capnpT.getTransferableNodesDistances().size() < transferableNodesCount"] ∧
    Gen.connectionArgs = ["path.nodesRef[nodeTimeI].get()", "path.nodesRef[nodeTimeI + 1].get()",
      "departureTimesSeconds[nodeTimeI]", "arrivalTimesSeconds[nodeTimeI + 1]", "trip",
      "canBoards[nodeTimeI] == 1", "canUnboards[nodeTimeI + 1] == 1", "nodeTimeI + 1",
      "trip.allowSameLineTransfers", "line.mode.isTransferable() ? 0 : -1"] ∧
    Gen.transferableName = "transferable" := ⟨rfl, rfl, rfl, rfl⟩

/-- how each loader stores a record with a uuid already present, as the translator reads it from the source:
    `emplace` keeps the first record (`Map.emplace`), `ts[uuid] =` keeps the last (`Map.set`) -/
theorem C17_insert_source :
    Gen.loaderInsert = [("agencies", "assign"), ("services", "assign"), ("nodes", "emplace"), ("lines", "emplace"), ("paths", "emplace"),
      ("scenarios", "assign"), ("trips_and_connections", "emplace")] := rfl

end Tr.Load
