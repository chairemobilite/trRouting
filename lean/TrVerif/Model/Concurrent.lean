/-
  TrVerif.Model.Concurrent — interleaving semantics of concurrent handler invocations.

  A worker thread serving a request performs, in this order (`transit_data.cpp:359-490`,
  `resets.cpp:221-225`, `connection_cache.cpp`):
    parse                      thread-local
    get        (shared lock)   atomic w.r.t. `set`; hit -> holds a shared_ptr to the cached set
    compute    thread-local    on a miss: builds the connection set of its scenario
    set        (unique lock)   atomic; publishes the new set (One: replaces the single entry)
    use        thread-local    scans with the set it holds (a `std::shared_ptr`: the object lives
                               as long as the thread holds it, whatever happens to the cache)
  The four yield points of the TRROUTING_VERIF hook sit exactly between these actions.
  Assumed, not derived (trusted base): a critical section is atomic, `std::shared_ptr` keeps its
  object alive; that the code takes these locks / holds shared ownership is read off the source by
  the translator (`Gen.facts`).
-/
import TrVerif.Model.Server
namespace Tr

inductive Pc
  | start
  | ready (p : Params)                 -- parsed, about to call `get`
  | missed (p : Params)                -- `get` missed, about to compute
  | computed (p : Params) (cs : ConnSet)   -- computed, about to `set`
  | holding (p : Params) (cs : ConnSet)    -- holds a reference, about to scan
  | done (resp : String)

structure Thread where
  req : Request
  pc : Pc

structure World where
  srv : Server
  threads : List Thread

/-- one atomic action of thread `t` on the shared cache -/
def threadStep (ds : Dataset) (srv : Server) (t : Thread) : Server × Thread :=
  match t.pc with
  | .start =>
    match parseParams ds t.req.kvs with
    | .error e => (srv, { t with pc := .done s!"{t.req.kind} query_error {paramErrorType e}" })
    | .ok p =>
      if reachesFilters ds t.req.kind p then (srv, { t with pc := .ready p })
      else (srv, { t with pc := .done (respond ds (mkConnSet [] [] []) t.req.kind p) })
  | .ready p =>
    match srv.get p.scenario with
    | some cs => (srv, { t with pc := .holding p cs })
    | none => (srv, { t with pc := .missed p })
  | .missed p => (srv, { t with pc := .computed p (ds.connSetOf (ds.scenarios.getD p.scenario default)) })
  | .computed p cs => (srv.set p.scenario cs, { t with pc := .holding p cs })
  | .holding p cs => (srv, { t with pc := .done (respond ds cs t.req.kind p) })
  | .done r => (srv, { t with pc := .done r })

/-- the scheduler picks thread `i` (out-of-range picks are no-ops) -/
def worldStep (ds : Dataset) (w : World) (i : Nat) : World :=
  match w.threads[i]? with
  | none => w
  | some t =>
    let (srv', t') := threadStep ds w.srv t
    { srv := srv', threads := w.threads.set i t' }

def runSchedule (ds : Dataset) (w : World) (sched : List Nat) : World := sched.foldl (worldStep ds) w

def World.init (cacheAll : Bool) (reqs : List Request) : World :=
  { srv := Server.init cacheAll, threads := reqs.map fun r => { req := r, pc := .start } }

end Tr
