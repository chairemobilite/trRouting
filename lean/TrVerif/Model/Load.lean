/-
  TrVerif.Model.Load — the cache loaders at RECORD level.

  Input  (`Disk`):  what the Cap'n Proto files of a cache directory contain, record by record, exactly
                    as `harness/decode.cpp` prints it (`notes/loader-protocol.md`, RECORDS): uuid texts
                    (parsable / not), parallel arrays of any lengths, references to identifiers that
                    other files may or may not define, missing files.
  Output (`TD`):    what `TransitData` holds after its constructor ran `loadAllData`
                    (`transit_data.cpp:276-356`): the seven `std::map`s, the footpath vectors of every
                    node, the `connections` vector in creation order.

  Code modelled, statement by statement:
    `agencies_cache_fetcher.cpp`, `services_cache_fetcher.cpp`  (getIds)
    `nodes_cache_fetcher.cpp`        (nodesCollLoop, nodeLoop, footLoop; the "sort" that copies is the identity)
    `lines_cache_fetcher.cpp`        (getLines)
    `paths_cache_fetcher.cpp`        (getPaths, distances from the JSON data field)
    `scenarios_cache_fetcher.cpp`    (getScenarios: `ts[uuid]` creates the entry, lists are assigned one by one)
    `trips_and_connections_cache_fetcher.cpp`  (schedLoop, fileLoop, connLoop: per-line files, validation of a trip, connections)
    `transit_data.cpp` loadAllData / getDataStatus  (order and tolerance: `Gen.loadOrder`, `Gen.dataStatusOrder`)

  Exceptions: a throwing statement ends the enclosing `try` with the state reached so far (entries
  stored before the throw stay). Two kinds of indexing are distinguished because the C++ differs:
  a Cap'n Proto list index is bounds-checked (kj::Exception, caught per file), `path.nodesRef[i]`
  is an unchecked `std::vector` access — out of range it is undefined behaviour, the model's `ub`.

  NOT modelled: bytes (packing, pointers, traversal limits): a file is `ok` with its records,
  `missing`, or `bad` (unreadable; the model then loads nothing from it, the real loader may have
  kept a prefix — byte-level faults are decided on the real binary only); date strings of services,
  simulation uuids of agencies / services, persons / odTrips / dataSources.
-/
import TrVerif.Model.Data
import TrVerif.Generated.Tables
namespace Tr.Load

/-! ### records -/

/-- a uuid text of a file: not parsable, empty, or the 128-bit value -/
inductive UTok
  | bad | empty | id (n : Nat)
deriving DecidableEq, Repr, Inhabited

/-- `boost::uuids::string_generator()(text)`: `none` = throws std::runtime_error -/
def UTok.parse : UTok → Option Nat
  | .id n => some n
  | _ => none

inductive FSt | ok | missing | bad
deriving DecidableEq, Repr, Inhabited

structure NodeFile where
  uuids : List UTok
  times : List Int
  dists : List Int
deriving Repr, Inhabited

structure LineR where
  uuid : UTok
  agency : UTok
  mode : String
deriving Repr, Inhabited

/-- `data.segments[i].<field>`: a number, absent / null, or present with another type -/
inductive SegV | num (n : Int) | absent | wrong
deriving DecidableEq, Repr, Inhabited

structure PathR where
  uuid : UTok
  line : UTok
  nodes : List UTok
  segs : Option (List (SegV × SegV))      -- (distanceMeters, travelTimeSeconds) per index; none = data is not usable JSON
deriving Repr, Inhabited

inductive Tok | u (t : UTok) | s (m : String)
deriving DecidableEq, Repr, Inhabited

structure ScenR where
  uuid : UTok
  sim : UTok
  /-- the nine lists in the order the CODE assigns them: services, onlyLines, onlyAgencies, onlyNodes,
      onlyModes, exceptLines, exceptAgencies, exceptNodes, exceptModes -/
  lists : List (List Tok)
deriving Repr, Inhabited

structure TripR where
  uuid : UTok
  path : UTok
  arr : List Int
  dep : List Int
  cb : List Int
  cu : List Int
deriving Repr, Inhabited

inductive LItem
  | sched (svc : UTok)
  | period
  | trip (t : TripR)
deriving Repr, Inhabited

structure Disk where
  agencies : FSt × List UTok := (.missing, [])
  services : FSt × List UTok := (.missing, [])
  nodes : FSt × List UTok := (.missing, [])
  nodeFiles : List (Nat × Option NodeFile) := []         -- none = unreadable
  lines : FSt × List LineR := (.missing, [])
  paths : FSt × List PathR := (.missing, [])
  scenarios : FSt × List ScenR := (.missing, [])
  lineFiles : List (Nat × Option (List LItem)) := []
deriving Repr, Inhabited

/-! ### `std::map<uuid, T>` as a list sorted by key -/

abbrev Map (α : Type) := List (Nat × α)

def Map.get? {α} (m : Map α) (k : Nat) : Option α := m.lookup k
def Map.has {α} (m : Map α) (k : Nat) : Bool := (m.lookup k).isSome
def Map.keys {α} (m : Map α) : List Nat := m.map (·.1)

/-- `m.emplace(k, v)`: nothing happens when the key exists -/
def Map.emplace {α} : Map α → Nat → α → Map α
  | [], k, v => [(k, v)]
  | (k', v') :: m, k, v =>
    if k < k' then (k, v) :: (k', v') :: m
    else if k = k' then (k', v') :: m
    else (k', v') :: Map.emplace m k v

/-- `m[k] = v` -/
def Map.set {α} : Map α → Nat → α → Map α
  | [], k, v => [(k, v)]
  | (k', v') :: m, k, v =>
    if k < k' then (k, v) :: (k', v') :: m
    else if k = k' then (k', v) :: m
    else (k', v') :: Map.set m k v

/-- `f(m.at(k))` for an existing key -/
def Map.modify {α} (m : Map α) (k : Nat) (f : α → α) : Map α :=
  m.map fun p => if p.1 = k then (p.1, f p.2) else p

/-! ### loaded data -/

def ENOENT : Int := 2
def EINVAL : Int := 22
def EBADMSG : Int := 74

structure NTDu where
  node : Nat
  time : Int
  dist : Int
deriving DecidableEq, Repr, Inhabited

structure LNode where
  foot : List NTDu := []
  rfoot : List NTDu := []
deriving Repr, Inhabited, DecidableEq

structure LLine where
  agency : Nat
  mode : String
deriving Repr, Inhabited, DecidableEq

structure LPath where
  line : Nat
  nodes : List Nat
  dist : List Int
deriving Repr, Inhabited, DecidableEq

inductive Val | id (n : Nat) | mode (m : String)
deriving DecidableEq, Repr, Inhabited

structure LScen where
  lists : List (List Val) := List.replicate 9 []
deriving Repr, Inhabited, DecidableEq

structure LTrip where
  path : Nat
  line : Nat
  agency : Nat
  mode : String
  service : Nat
deriving Repr, Inhabited, DecidableEq

structure LConn where
  depNode : Nat
  arrNode : Nat
  dep : Int
  arr : Int
  trip : Nat
  seq : Nat
  cb : Bool
  cu : Bool
  mw : Int
deriving Repr, Inhabited, DecidableEq

structure TD where
  agencies : Map Unit := []
  services : Map Unit := []
  nodes : Map LNode := []
  lines : Map LLine := []
  paths : Map LPath := []
  scenarios : Map LScen := []
  trips : Map LTrip := []
  conns : List LConn := []
  /-- an unchecked vector access was out of range while loading (undefined behaviour in C++) -/
  ub : Bool := false
deriving Repr, Inhabited

/-! ### agencies, services -/

def idsLoop : List UTok → Map Unit → Int × Map Unit
  | [], m => (0, m)
  | u :: us, m =>
    match u.parse with
    | none => (-EINVAL, m)
    | some k => idsLoop us (m.set k ())

/-- `getAgencies` / `getServices`: `ts.clear()`, open, `ts[uuid] = t` per record -/
def getIds (f : FSt × List UTok) : Int × Map Unit :=
  match f.1 with
  | .missing => (-ENOENT, [])
  | .bad => (-EBADMSG, [])
  | .ok => idsLoop f.2 []

/-! ### nodes -/

def nodesCollLoop : List UTok → Map LNode → Int × Map LNode
  | [], m => (0, m)
  | u :: us, m =>
    match u.parse with
    | none => (-EINVAL, m)
    | some k => nodesCollLoop us (m.emplace k {})

/-- the loop over `transferableNodesUuids` of the file of node `k`; `acc` = the local vector
    `transferableNodes`; result `true` = left by an exception -/
def footLoop (k : Nat) : List UTok → List Int → List Int → List NTDu → Map LNode → Bool × List NTDu × Map LNode
  | [], _, _, acc, ts => (false, acc, ts)
  | u :: us, t :: tts, d :: dds, acc, ts =>
    match u.parse with
    | none => (true, acc, ts)                                  -- malformed uuid text: std::exception
    | some v =>
      if !ts.has v then footLoop k us tts dds acc ts             -- unknown stop: skipped
      else if t < 0 then footLoop k us tts dds acc ts            -- negative walk: skipped
      else footLoop k us tts dds (acc ++ [⟨v, t, d⟩])
             (ts.modify v fun n => { n with rfoot := n.rfoot ++ [⟨k, t, d⟩] })
  | _ :: _, _, _, acc, ts => (true, acc, ts)                   -- capnp index out of range: kj::Exception

def lookupFile {α} (files : List (Nat × α)) (k : Nat) : Option α := files.lookup k

/-- the second loop of `getNodes`, over the keys of `ts` in map order -/
def nodeLoop (files : List (Nat × Option NodeFile)) : List Nat → Map LNode → Int × Map LNode
  | [], ts => (0, ts)
  | k :: ks, ts =>
    match lookupFile files k with
    | none => nodeLoop files ks ts                               -- no file: `continue`
    | some none => (-EBADMSG, ts)                                -- unreadable file
    | some (some f) =>
      if f.times.length < f.uuids.length ∨ f.dists.length < f.uuids.length then (-EBADMSG, ts)
      else
        match footLoop k f.uuids f.times f.dists [] ts with
        | (true, _, ts') => (-EBADMSG, ts')
        | (false, acc, ts') =>
          nodeLoop files ks (ts'.modify k fun n => { n with foot := acc, rfoot := n.rfoot ++ [⟨k, 0, 0⟩] })

def getNodes (d : Disk) : Int × Map LNode :=
  match d.nodes.1 with
  | .missing => (-ENOENT, [])
  | .bad => (-EBADMSG, [])
  | .ok =>
    match nodesCollLoop d.nodes.2 [] with
    | (0, ts) => nodeLoop d.nodeFiles ts.keys ts
    | (r, ts) => (r, ts)

/-! ### lines -/

def linesLoop (agencies : Map Unit) : List LineR → Map LLine → Int × Map LLine
  | [], m => (0, m)
  | r :: rs, m =>
    match r.uuid.parse, r.agency.parse with
    | some k, some a =>
      if agencies.has a ∧ Gen.modeNames.contains r.mode then linesLoop agencies rs (m.emplace k ⟨a, r.mode⟩)
      else (-EINVAL, m)
    | _, _ => (-EINVAL, m)

def getLines (d : Disk) (agencies : Map Unit) : Int × Map LLine :=
  match d.lines.1 with
  | .missing => (-ENOENT, [])
  | .bad => (-EBADMSG, [])
  | .ok => linesLoop agencies d.lines.2 []

/-! ### paths -/

/-- `nodes.at(uuidGenerator(text))` for every stop of the path; `none` = some statement throws -/
def resolveNodes (nodes : Map LNode) : List UTok → Option (List Nat)
  | [] => some []
  | u :: us =>
    match u.parse with
    | none => none
    | some k => if nodes.has k then (resolveNodes nodes us).map (k :: ·) else none

/-- the loop `for i < nodesRef.size()` over `segments[i]`; an index past the JSON array reads null -/
def segLoop : Nat → List (SegV × SegV) → Option (List Int)
  | 0, _ => some []
  | n+1, [] => segLoop n []
  | n+1, (d, t) :: rest =>
    if t = .wrong then none else
    match d with
    | .wrong => none
    | .absent => segLoop n rest
    | .num x => (segLoop n rest).map (x :: ·)

def pathsLoop (lines : Map LLine) (nodes : Map LNode) : List PathR → Map LPath → Int × Map LPath
  | [], m => (0, m)
  | r :: rs, m =>
    match r.uuid.parse, resolveNodes nodes r.nodes, r.segs, r.line.parse with
    | some k, some ns, some segs, some l =>
      match segLoop ns.length segs with
      | none => (-EINVAL, m)
      | some dist => if lines.has l then pathsLoop lines nodes rs (m.emplace k ⟨l, ns, dist⟩) else (-EINVAL, m)
    | _, _, _, _ => (-EINVAL, m)

def getPaths (d : Disk) (lines : Map LLine) (nodes : Map LNode) : Int × Map LPath :=
  match d.paths.1 with
  | .missing => (-ENOENT, [])
  | .bad => (-EBADMSG, [])
  | .ok => pathsLoop lines nodes d.paths.2 []

/-! ### scenarios -/

inductive R | throw | skip | keep (v : Val)

/-- one list of a scenario: `none` = a uuid text does not parse (the list is then not assigned) -/
def resolveList (f : Tok → R) : List Tok → Option (List Val)
  | [] => some []
  | t :: ts =>
    match f t with
    | .throw => none
    | .skip => resolveList f ts
    | .keep v => (resolveList f ts).map (v :: ·)

def byId (known : Nat → Bool) : Tok → R
  | .u t => match t.parse with
    | none => .throw
    | some k => if known k then .keep (.id k) else .skip
  | .s _ => .throw

def byMode : Tok → R
  | .s m => if Gen.modeNames.contains m then .keep (.mode m) else .skip
  | .u _ => .skip

structure Known where
  services : Nat → Bool
  lines : Nat → Bool
  agencies : Nat → Bool
  nodes : Nat → Bool

/-- resolver of the i-th list in code order -/
def Known.resolver (kn : Known) (i : Nat) : Tok → R :=
  match i with
  | 0 => byId kn.services
  | 1 => byId kn.lines
  | 2 => byId kn.agencies
  | 3 => byId kn.nodes
  | 4 => byMode
  | 5 => byId kn.lines
  | 6 => byId kn.agencies
  | 7 => byId kn.nodes
  | _ => byMode

/-- assign the lists `i, i+1, …` of the entry `s`; `true` = a throw ended the record -/
def assignLists (kn : Known) : Nat → List (List Tok) → LScen → Bool × LScen
  | _, [], s => (false, s)
  | i, l :: ls, s =>
    match resolveList (kn.resolver i) l with
    | none => (true, s)
    | some vs => assignLists kn (i + 1) ls { s with lists := s.lists.set i vs }

def scenLoop (kn : Known) : List ScenR → Map LScen → Int × Map LScen
  | [], m => (0, m)
  | r :: rs, m =>
    match r.uuid.parse with
    | none => (-EINVAL, m)
    | some k =>
      let cur : LScen := (m.get? k).getD {}            -- `ts[uuid]` default-constructs a missing entry
      if r.sim = .bad then (-EINVAL, m.set k cur)
      else
        match assignLists kn 0 r.lists cur with
        | (true, s) => (-EINVAL, m.set k s)
        | (false, s) => scenLoop kn rs (m.set k s)

def getScenarios (d : Disk) (kn : Known) : Int × Map LScen :=
  match d.scenarios.1 with
  | .missing => (-ENOENT, [])
  | .bad => (-EBADMSG, [])
  | .ok => scenLoop kn d.scenarios.2 []

/-! ### schedules -/

/-- the validation of a trip record against its path (`trips_and_connections_cache_fetcher.cpp`) -/
def tripCountsOk (t : TripR) (p : LPath) : Bool :=
  !(t.arr.length < 2 || t.arr.length > p.nodes.length || t.dep.length < t.arr.length
    || t.cb.length < t.arr.length || t.cu.length < t.arr.length)

/-- `for i+1 < n: if arr[i+1] < dep[i]` (after the count validation both reads are in range) -/
def goesBack : List Int → List Int → Bool
  | _ :: a1 :: as, d0 :: ds => a1 < d0 || goesBack (a1 :: as) ds
  | _, _ => false

inductive Idx (α : Type) | val (a : α) | kj | ub

/-- connections of hops `i, i+1, …` (at most `n` of them): checked capnp reads, unchecked `nodesRef` reads -/
def connLoop (trip : Nat) (mw : Int) (nodes : List Nat) (t : TripR) : Nat → Nat → Idx (List LConn)
  | _, 0 => .val []
  | i, n+1 =>
    match nodes[i]?, nodes[i+1]? with
    | some a, some b =>
      match t.dep[i]?, t.arr[i+1]?, t.cb[i]?, t.cu[i+1]? with
      | some dp, some ar, some cb, some cu =>
        match connLoop trip mw nodes t (i+1) n with
        | .val cs => .val (⟨a, b, dp, ar, trip, i+1, cb == 1, cu == 1, mw⟩ :: cs)
        | e => e
      | _, _, _, _ => .kj
    | _, _ => .ub

structure Sch where
  trips : Map LTrip := []
  conns : List LConn := []
  ub : Bool := false
deriving Repr, Inhabited

/-- the records of one line file, in order; `svc` = the service of the enclosing schedule.
    Result `true` = the file was left by an exception (what was stored before stays). -/
def fileLoop (line : Nat) (ll : LLine) (services : Map Unit) (paths : Map LPath) :
    List LItem → Option Nat → Sch → Bool × Sch
  | [], _, s => (false, s)
  | .period :: is, svc, s => fileLoop line ll services paths is svc s
  | .sched u :: is, _, s =>
    match u.parse with
    | none => (true, s)
    | some k => if services.has k then fileLoop line ll services paths is (some k) s else (true, s)
  | .trip t :: is, svc, s =>
    match svc, t.uuid.parse, t.path.parse with
    | some sv, some k, some pk =>
      match paths.get? pk with
      | none => (true, s)
      | some p =>
        if !tripCountsOk t p then fileLoop line ll services paths is svc s
        else if goesBack t.arr t.dep then fileLoop line ll services paths is svc s
        else
          let trips := s.trips.emplace k ⟨pk, line, ll.agency, ll.mode, sv⟩
          let mw : Int := if ll.mode = "transferable" then 0 else -1
          match connLoop k mw p.nodes t 0 (t.arr.length - 1) with
          | .val cs => fileLoop line ll services paths is svc { s with trips, conns := s.conns ++ cs }
          | .kj => (true, { s with trips })
          | .ub => (true, { s with trips, ub := true })
    | _, _, _ => (true, s)

/-- `getSchedules`: one file per loaded line, in map order; a missing file is skipped, a throwing file
    is abandoned and the next line is read -/
def schedLoop (files : List (Nat × Option (List LItem))) (services : Map Unit) (paths : Map LPath) :
    Map LLine → Sch → Sch
  | [], s => s
  | (l, ll) :: ls, s =>
    match lookupFile files l with
    | none => schedLoop files services paths ls s
    | some none => schedLoop files services paths ls s
    | some (some items) => schedLoop files services paths ls (fileLoop l ll services paths items none s).2

/-! ### loadAllData -/

/-- one update call on the current state; returns the fetcher's return value -/
def applyCall (d : Disk) (fn : String) (td : TD) : Int × TD :=
  if fn = "updateNodes" then let r := getNodes d; (r.1, { td with nodes := r.2 })
  else if fn = "updateAgencies" then let r := getIds d.agencies; (r.1, { td with agencies := r.2 })
  else if fn = "updateServices" then let r := getIds d.services; (r.1, { td with services := r.2 })
  else if fn = "updateLines" then let r := getLines d td.agencies; (r.1, { td with lines := r.2 })
  else if fn = "updatePaths" then let r := getPaths d td.lines td.nodes; (r.1, { td with paths := r.2 })
  else if fn = "updateScenarios" then
    let r := getScenarios d ⟨td.services.has, td.lines.has, td.agencies.has, td.nodes.has⟩
    (r.1, { td with scenarios := r.2 })
  else if fn = "updateSchedules" then
    let s := schedLoop d.lineFiles td.services td.paths td.lines {}
    (0, { td with trips := s.trips, conns := s.conns, ub := td.ub || s.ub })
  else (0, td)          -- data sources, persons, OD trips: not read by any calculation

/-- `loadAllData`: calls in source order; a failure other than a tolerated missing file returns early -/
def loadFrom (d : Disk) : List (String × Bool) → TD → TD
  | [], td => td
  | (fn, tol) :: rest, td =>
    let r := applyCall d fn td
    if r.1 < 0 ∧ ¬ (tol ∧ r.1 = -ENOENT) then r.2 else loadFrom d rest r.2

def loadAll (d : Disk) : TD := loadFrom d Gen.loadOrder {}

/-- the update calls `GET /updateCache?names=<names>` makes (`transit_routing_http_server.cpp`): per name, in handler
    order (`Gen.updateCacheNames`), on the tables now in memory, reading the files `d`; return values are ignored -/
def updateNames (d : Disk) (names : List String) (td : TD) : TD :=
  names.foldl (fun td name =>
    Gen.updateCacheNames.foldl (fun td p => if name = p.1 ∨ name = "all" then (applyCall d p.2 td).2 else td) td) td

def TD.count (td : TD) (coll : String) : Nat :=
  if coll = "agencies" then td.agencies.length
  else if coll = "services" then td.services.length
  else if coll = "nodes" then td.nodes.length
  else if coll = "lines" then td.lines.length
  else if coll = "paths" then td.paths.length
  else if coll = "scenarios" then td.scenarios.length
  else if coll = "trips" then td.trips.length
  else 1

/-- `getDataStatus` -/
def TD.status (td : TD) : String :=
  match Gen.dataStatusOrder.find? (fun p => td.count p.1 = 0) with
  | some p => p.2
  | none => "READY"

/-! ### the two sorted lists -/

def lFwdLt (a b : LConn) : Bool :=
  decide (a.dep < b.dep) || (decide (a.dep = b.dep) &&
    (decide (a.trip < b.trip) || (decide (a.trip = b.trip) && decide (a.seq < b.seq))))

def lRevLt (a b : LConn) : Bool :=
  decide (a.arr > b.arr) || (decide (a.arr = b.arr) &&
    (decide (a.trip > b.trip) || (decide (a.trip = b.trip) && decide (a.seq > b.seq))))

def TD.fwd (td : TD) : List LConn := isort lFwdLt td.conns
def TD.rev (td : TD) : List LConn := isort lRevLt td.conns

end Tr.Load
