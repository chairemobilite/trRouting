/-
  TrVerif.Model.Server — the state shared between requests: the per-scenario connection-set
  cache (`ScenarioConnectionCacheOne` / `ScenarioConnectionCacheAll`, `connection_cache.cpp`),
  `TransitData::getConnectionsForScenario` (`transit_data.cpp:359-490`) and the request handlers
  (`transit_routing_http_server.cpp:329-530`): every handler invocation builds its own
  `Calculator`, so the cache is the only state one request leaves for the next.
-/
import TrVerif.Model.Driver
namespace Tr

structure Request where
  kind : String                 -- "route" | "summary" | "accessibility"
  kvs : List String             -- `key=value` words
deriving Repr, Inhabited, DecidableEq

structure Server where
  cacheAll : Bool               -- `--cacheAllConnectionSets`
  cache : List (Nat × ConnSet)  -- One: at most the last entry; All: every scenario computed so far
deriving Inhabited

def Server.init (cacheAll : Bool) : Server := { cacheAll, cache := [] }

/-- `ScenarioConnectionCache*::get` -/
def Server.get (s : Server) (sc : Nat) : Option ConnSet := (s.cache.find? (·.1 = sc)).map (·.2)

/-- `ScenarioConnectionCache*::set` -/
def Server.set (s : Server) (sc : Nat) (cs : ConnSet) : Server :=
  if s.cacheAll then { s with cache := (sc, cs) :: s.cache.filter (·.1 ≠ sc) }
  else { s with cache := [(sc, cs)] }

/-- `TransitData::getConnectionsForScenario`: cache hit, or compute and publish -/
def obtain (ds : Dataset) (s : Server) (sc : Nat) : ConnSet × Server :=
  match s.get sc with
  | some cs => (cs, s)
  | none =>
    let cs := ds.connSetOf (ds.scenarios.getD sc default)
    (cs, s.set sc cs)

/-- does the calculation get as far as `resetFilters` (where the connection set is obtained)?
    `Calculator::reset` throws before that when the walking router offers no stop -/
def reachesFilters (ds : Dataset) (kind : String) (p : Params) : Bool :=
  if kind = "accessibility" then
    if p.forward then !(routerLookup ds.access p.maxAccess).isEmpty else !(routerLookup ds.egress p.maxEgress).isEmpty
  else !(routerLookup ds.access p.maxAccess).isEmpty && !(routerLookup ds.egress p.maxEgress).isEmpty

/-- the response computed with connection set `cs` -/
def respond (ds : Dataset) (cs : ConnSet) (kind : String) (p : Params) : String :=
  if kind = "route" then renderRouteAnswerCS ds cs p
  else if kind = "summary" then renderSummaryAnswerCS ds cs p
  else renderAccessibilityAnswerCS ds cs { p with alternatives := false }

/-- one handler invocation -/
def handle (ds : Dataset) (s : Server) (r : Request) : Server × String :=
  match parseParams ds r.kvs with
  | .error e => (s, s!"{r.kind} query_error {paramErrorType e}")
  | .ok p =>
    if reachesFilters ds r.kind p then
      let (cs, s') := obtain ds s p.scenario
      (s', respond ds cs r.kind p)
    else
      -- the connection set is never consulted: any value gives the same "no access" answer
      (s, respond ds (mkConnSet [] [] []) r.kind p)

def run (ds : Dataset) (s : Server) (h : List Request) : Server := h.foldl (fun s r => (handle ds s r).1) s

end Tr
